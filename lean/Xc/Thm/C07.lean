/-
  C07 — hashing is a pure function of its inputs across entry points and call history.
-/
import Xc.World
import Xc.Thm.C05

namespace Xc.C07

/-- `crypt` is `crypt_r` on the static object -/
theorem cryptR_pure (c : Ctx) (hD : c.D.WF) (ph st : Option Bytes) (d : DataObj) :
    some ((cryptR c.cfg c.D c.tokens ph st d).2.ret, (cryptR c.cfg c.D c.tokens ph st d).2.errno) =
      pureObs c (.static ph st) := by
  simp only [pureObs]
  cases h : cryptAnswer c.cfg c.D ph st with
  | ok H => have := C05.C05_r_ok c.cfg c.D ph st d c.tokens H h hD; simp [this.1, this.2.2]
  | error e => have := C05.C05_r_fail c.cfg c.D ph st d c.tokens e h; simp [this.2.1, this.2.2]

/-- one step from an ARBITRARY world returns the history-free answer -/
theorem step_pure (c : Ctx) (hD : c.D.WF) (w : World) (op : Op) :
    ((step c w op).2.map fun o => (o.ret, o.errno)) = pureObs c op := by
  cases op with
  | rn id ph st size =>
    simp only [step, pureObs, Option.map_some]
    by_cases hs : size < (Gen.sizeof_crypt_data : Int)
    · have := C05.C05_rn_small c.cfg c.D ph st (w.objs id) size hs
      simp [hs, this.1, this.2.1]
    · have hs' : (Gen.sizeof_crypt_data : Int) ≤ size := by omega
      rw [if_neg hs]
      cases h : cryptAnswer c.cfg c.D ph st with
      | ok H => have := C05.C05_rn_ok c.cfg c.D ph st (w.objs id) size hs' H h hD; simp [this.1, this.2.1]
      | error e => have := C05.C05_rn_fail c.cfg c.D ph st (w.objs id) size hs' e h; simp [this.1, this.2.1]
  | r id ph st => exact cryptR_pure c hD ph st _
  | static ph st => exact cryptR_pure c hD ph st _
  | staticFromGensalt ph pfx count rb nrb => exact cryptR_pure c hD ph _ _
  | gensalt pfx count rb nrb => rfl
  | clobber id d => rfl

/-- **C07**: in every finite history, from every initial state of all objects and of the library's
    static areas, every call returns what the pure function of its own arguments says -/
theorem C07_history (c : Ctx) (hD : c.D.WF) (ops : List Op) (w : World) :
    (run c w ops).map (fun o => o.map fun o => (o.ret, o.errno)) = ops.map (pureObs c) := by
  induction ops generalizing w with
  | nil => rfl
  | cons op rest ih =>
    simp only [run, List.map_cons, ih, step_pure c hD w op]

/-- the four entry points agree (crypt_ra is crypt_rn on a block of sufficient size, see C14):
    same string or all fail, failure tokens apart -/
theorem C07_entry (c : Ctx) (hD : c.D.WF) (ph st : Option Bytes) (d1 d2 d3 : DataObj) (size : Int)
    (hs : (Gen.sizeof_crypt_data : Int) ≤ size) (H : Bytes) :
    ((cryptRn c.cfg c.D ph st d1 size).2.ret = some H ↔ cryptAnswer c.cfg c.D ph st = .ok H) ∧
    (cryptAnswer c.cfg c.D ph st = .ok H → (cryptR c.cfg c.D c.tokens ph st d2).2.ret = some H ∧
        (cryptR c.cfg c.D c.tokens ph st d3).2.ret = some H) := by
  constructor
  · constructor
    · intro h
      cases ha : cryptAnswer c.cfg c.D ph st with
      | ok H' => have := (C05.C05_rn_ok c.cfg c.D ph st d1 size hs H' ha hD).1; rw [this] at h; cases h; rfl
      | error e => have := (C05.C05_rn_fail c.cfg c.D ph st d1 size hs e ha).1; rw [this] at h; cases h
    · intro ha; exact (C05.C05_rn_ok c.cfg c.D ph st d1 size hs H ha hD).1
  · intro ha
    exact ⟨(C05.C05_r_ok c.cfg c.D ph st d2 c.tokens H ha hD).1, (C05.C05_r_ok c.cfg c.D ph st d3 c.tokens H ha hD).1⟩

end Xc.C07
