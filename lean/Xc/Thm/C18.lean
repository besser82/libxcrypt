/-
  C18 — crypt_checksalt and crypt_preferred_method agree with crypt and crypt_gensalt.
  Facts about the *generated* dispatch table (`Gen.table`, `Gen.defaultPrefix`) are decided
  by kernel evaluation over the whole table; the characterisations hold for any table.
-/
import Xc.Gensalt
import Xc.Gen.Statics

namespace Xc.C18

/-- INVALID exactly for NULL, empty, ill-charactered or unrecognised settings (any table) -/
theorem C18_invalid (tbl : List HashEntry) (s : Option Bytes) :
    checksalt tbl s = .invalid ↔
      (s = none ∨ ∃ b, s = some b ∧ (b = [] ∨ checkBadSaltChars b = true ∨ getHashFn tbl b = none)) := by
  cases s with
  | none => simp [checksalt]
  | some b =>
    simp only [checksalt, reduceCtorEq, Option.some.injEq, exists_eq_left', false_or]
    by_cases h1 : b = []
    · simp [h1]
    · by_cases h2 : checkBadSaltChars b = true
      · simp [h2]
      · cases h3 : getHashFn tbl b with
        | none => simp [h1, h2]
        | some h => simp [h1, h2]; split <;> simp

/-- OK exactly for recognised strong methods, LEGACY exactly for recognised non-strong ones;
    no other status is ever returned -/
theorem C18_ok_legacy (tbl : List HashEntry) (b : Bytes) (hne : b ≠ []) (hc : checkBadSaltChars b = false)
    (h : HashEntry) (hh : getHashFn tbl b = some h) :
    checksalt tbl (some b) = (if h.strong then .ok else .legacy) := by
  simp [checksalt, hne, hc, hh]

theorem C18_range (tbl : List HashEntry) (s : Option Bytes) :
    checksalt tbl s = .ok ∨ checksalt tbl s = .legacy ∨ checksalt tbl s = .invalid := by
  cases s with
  | none => simp [checksalt]
  | some b =>
    simp only [checksalt]
    split; · simp
    split; · simp
    split <;> simp

/-- the result depends only on which table row matches and on the character check -/
theorem C18_tag_only (tbl : List HashEntry) (b b' : Bytes) (hne : b ≠ []) (hne' : b' ≠ [])
    (hc : checkBadSaltChars b = checkBadSaltChars b') (hh : getHashFn tbl b = getHashFn tbl b') :
    checksalt tbl (some b) = checksalt tbl (some b') := by
  simp [checksalt, hne, hne', hc, hh]

/-- the strong methods of the tree's table are exactly the documented ones -/
theorem C18_strong :
    (Gen.table.filter (·.strong)).map (·.pfx) =
      [[36, 50, 97, 36], [36, 50, 98, 36], [36, 50, 121, 36], [36, 103, 121, 36], [36, 54, 36], [36, 55, 36], [36, 121, 36]] ∧
    (Gen.table.filter (·.strong)).map (·.crypt) =
      [.bcrypt_a, .bcrypt, .bcrypt_y, .gost_yescrypt, .sha512crypt, .scrypt, .yescrypt] := by
  decide

/-- no non-empty table prefix is a prefix of a different row's prefix, `plen` is the prefix length,
    and rows with an empty prefix come last: "first match" is "the unique match" -/
def prefixFree (tbl : List HashEntry) : Bool :=
  tbl.all (fun h => h.plen == h.pfx.length) &&
  tbl.all (fun h1 => tbl.all (fun h2 => h1.pfx.isEmpty || h2.pfx.isEmpty || h1 == h2 || !(h1.pfx.isPrefixOf h2.pfx))) &&
  (tbl.dropWhile (fun h => !h.pfx.isEmpty)).all (fun h => h.pfx.isEmpty)

theorem C18_prefixfree : prefixFree Gen.table = true := by decide

theorem matches_prefix (h : HashEntry) (s : Bytes) (hp : h.plen = h.pfx.length) (hpos : 0 < h.plen)
    (hm : h.matches s = true) : h.pfx <+: s := by
  unfold HashEntry.matches at hm
  rw [hp] at hpos
  rw [if_pos (by omega), hp, if_pos (Nat.le_refl _), List.take_length] at hm
  simpa [hasPrefix] using hm

/-- two rows with non-empty prefixes that both match a setting are the same row (table order is irrelevant
    among tagged methods) -/
theorem C18_unique_match (tbl : List HashEntry) (hpf : prefixFree tbl = true) (s : Bytes)
    (h1 h2 : HashEntry) (m1 : h1 ∈ tbl) (m2 : h2 ∈ tbl) (n1 : h1.pfx ≠ []) (n2 : h2.pfx ≠ [])
    (a1 : h1.matches s = true) (a2 : h2.matches s = true) : h1 = h2 := by
  simp only [prefixFree, Bool.and_eq_true, List.all_eq_true] at hpf
  obtain ⟨⟨hlen, hpair⟩, _⟩ := hpf
  -- both tags are prefixes of `s`, so the shorter is a prefix of the longer
  have key : ∀ h1 h2 : HashEntry, h1 ∈ tbl → h2 ∈ tbl → h1.pfx ≠ [] → h2.pfx ≠ [] → h1.matches s = true → h2.matches s = true →
      h1.pfx.length ≤ h2.pfx.length → h1 = h2 := by
    intro h1 h2 m1 m2 n1 n2 a1 a2 hle
    have l1 := hlen h1 m1; have l2 := hlen h2 m2
    simp only [beq_iff_eq] at l1 l2
    have q1 := matches_prefix h1 s l1 (by rw [l1]; exact List.length_pos_iff.mpr n1) a1
    have q2 := matches_prefix h2 s l2 (by rw [l2]; exact List.length_pos_iff.mpr n2) a2
    have : h1.pfx.isPrefixOf h2.pfx = true := by simpa using List.prefix_of_prefix_length_le q1 q2 hle
    simpa [n1, n2, this] using hpair h1 m1 h2 m2
  rcases Nat.le_total h1.pfx.length h2.pfx.length with hle | hle
  · exact key h1 h2 m1 m2 n1 n2 a1 a2 hle
  · exact (key h2 h1 m2 m1 n2 n1 a2 a1 hle).symm

/-- the untagged (DES) rows are selected exactly by two leading characters of the DES alphabet -/
theorem C18_des_rule (h : HashEntry) (s : Bytes) (hp : h.plen = 0) (hs : s ≠ []) :
    h.matches s = (isDesSaltChar (cat s 0) && isDesSaltChar (cat s 1)) := by
  unfold HashEntry.matches
  simp [hp, hs]

/-- crypt_preferred_method names a method for which checksalt says OK, and a NULL prefix
    means exactly that prefix to crypt_gensalt -/
theorem C18_preferred_ok : ∀ p, preferredMethod Gen.defaultPrefix = some p → checksalt Gen.table (some p) = .ok := by
  decide

theorem C18_preferred_gensalt (cfg : Config) (p : Bytes) (hp : preferredMethod cfg.dflt = some p)
    (count : Nat) (rb : Option Bytes) (nrb osize : Int) (os : Nat → Bytes) :
    gensaltRn cfg none count rb nrb osize os = gensaltRn cfg (some p) count rb nrb osize os := by
  unfold preferredMethod at hp
  simp [gensaltRn, resolvePrefix, hp]

example : checksalt Gen.table (some [36, 54, 36, 97]) = .ok := by decide
example : checksalt Gen.table (some [36, 53, 36, 97]) = .legacy := by decide
example : checksalt Gen.table (some [97, 98]) = .legacy := by decide
example : checksalt Gen.table (some [36, 54, 36, 58]) = .invalid := by decide
example : checksalt Gen.table (some [36, 122, 36]) = .invalid := by decide

/-! ### what the authentication round trip (C01) needs from a dispatch table -/

def tagOf (m : Method) : Bytes := ((Gen.hashesConf.find? (·.name == m)).map (·.pfx)).getD []

/-- first match = unique match, tags begin with a character outside the DES salt alphabet, and every row carries the tag
    `hashes.conf` gives its method -/
def TableOk (tbl : List HashEntry) : Bool :=
  prefixFree tbl &&
  tbl.all (fun r => r.pfx.isEmpty || !isDesSaltChar (cat r.pfx 0)) &&
  tbl.all (fun r => r.pfx == tagOf r.crypt)

theorem tableOk_tree : TableOk Gen.table = true := by decide

/-! ### the classification is a function of the bytes alone -/

/-- `C08.reach`, restated here so that this file stands on its own -/
def reachFrom (funcs : List (List Nat × Nat)) : Nat → List Nat → List Nat
  | 0, acc => acc
  | fuel + 1, acc =>
    let next := acc.foldl (fun a f => (funcs.getD f ([], 0)).1.foldl (fun a c => if a.contains c then a else c :: a) a) acc
    if next.length = acc.length then acc else reachFrom funcs fuel next

/-- libc functions whose result depends on nothing but their arguments (no locale, no global state) -/
def localeFree : List String :=
  ["strlen", "strnlen", "strcmp", "strncmp", "strchr", "strrchr", "strspn", "strcspn", "strpbrk", "strstr", "memcmp", "memchr", "memmem", "memcpy", "memmove",
   "memset", "strcpy", "strncpy", "__errno_location"]

/-- no function reachable from `crypt_checksalt` (call graph and external callees regenerated from the clang AST of lib/*.c, indirect calls
    through the method table included) calls anything outside that list - in particular none of the `<ctype.h>` classification functions
    (`isgraph`, `isalnum`, … compile to `__ctype_b_loc`), whose answers change with `setlocale`: the answer depends on the method tag and the
    characters of the setting only, not on the process locale.  (`Gen.st_reentrant` lists the re-entrant entry points in the
    translator's order, which tools/statics.py fixes: entry 5 is `crypt_checksalt`.) -/
theorem C18_locale_free :
    (reachFrom Gen.st_funcs Gen.st_funcs.length [Gen.st_reentrant.getD 5 0]).all
      (fun f => (Gen.st_ext.getD f []).all (fun e => localeFree.contains e)) = true := by
  decide +kernel

end Xc.C18
