/-
  C20 — binary interface stays compatible with released libcrypt.so.1.
  The quantifier ("every existing binary") reduces to a finite interface: struct layout, constants,
  (symbol, version) pairs and alias identity.  All facts below are decided over tables regenerated from
  the tree on every run (Gen.Consts from the tree's crypt.h, Gen.Abi from the freshly linked .so) against
  the facts of the released library (libxcrypt 4.4.33) committed under /verif/ref.
-/
import Xc.Gen.Abi
import Xc.Gen.Consts
namespace Xc.C20

def nm (s : String) : List Nat := s.toList.map Char.toNat

/-- struct crypt_data: 32768 bytes, fields at their released offsets, no padding between them -/
theorem C20_layout :
    Gen.sizeof_crypt_data = 32768 ∧ Gen.off_output = 0 ∧ Gen.off_setting = 384 ∧ Gen.off_input = 768 ∧
    Gen.off_reserved = 1280 ∧ Gen.off_initialized = 2047 ∧ Gen.off_internal = 2048 ∧
    Gen.off_output + Gen.size_output = Gen.off_setting ∧ Gen.off_setting + Gen.size_setting = Gen.off_input ∧
    Gen.off_input + Gen.size_input = Gen.off_reserved ∧ Gen.off_reserved + Gen.size_reserved = Gen.off_initialized ∧
    Gen.off_initialized + Gen.size_initialized = Gen.off_internal ∧ Gen.off_internal + Gen.size_internal = Gen.sizeof_crypt_data := by
  decide

/-- the tree's header agrees with the released header on every layout number and public constant -/
theorem C20_matches_released :
    Gen.abi_released_layout =
      [([67, 82, 89, 80, 84, 95, 68, 65, 84, 65, 95, 73, 78, 84, 69, 82, 78, 65, 76, 95, 83, 73, 90, 69], Gen.CRYPT_DATA_INTERNAL_SIZE),
       ([67, 82, 89, 80, 84, 95, 68, 65, 84, 65, 95, 82, 69, 83, 69, 82, 86, 69, 68, 95, 83, 73, 90, 69], Gen.CRYPT_DATA_RESERVED_SIZE),
       ([67, 82, 89, 80, 84, 95, 71, 69, 78, 83, 65, 76, 84, 95, 79, 85, 84, 80, 85, 84, 95, 83, 73, 90, 69], Gen.CRYPT_GENSALT_OUTPUT_SIZE),
       ([67, 82, 89, 80, 84, 95, 77, 65, 88, 95, 80, 65, 83, 83, 80, 72, 82, 65, 83, 69, 95, 83, 73, 90, 69], Gen.CRYPT_MAX_PASSPHRASE_SIZE),
       ([67, 82, 89, 80, 84, 95, 79, 85, 84, 80, 85, 84, 95, 83, 73, 90, 69], Gen.CRYPT_OUTPUT_SIZE),
       ([67, 82, 89, 80, 84, 95, 83, 65, 76, 84, 95, 73, 78, 86, 65, 76, 73, 68], Gen.CRYPT_SALT_INVALID),
       ([67, 82, 89, 80, 84, 95, 83, 65, 76, 84, 95, 77, 69, 84, 72, 79, 68, 95, 68, 73, 83, 65, 66, 76, 69, 68], Gen.CRYPT_SALT_METHOD_DISABLED),
       ([67, 82, 89, 80, 84, 95, 83, 65, 76, 84, 95, 77, 69, 84, 72, 79, 68, 95, 76, 69, 71, 65, 67, 89], Gen.CRYPT_SALT_METHOD_LEGACY),
       ([67, 82, 89, 80, 84, 95, 83, 65, 76, 84, 95, 79, 75], Gen.CRYPT_SALT_OK),
       ([67, 82, 89, 80, 84, 95, 83, 65, 76, 84, 95, 84, 79, 79, 95, 67, 72, 69, 65, 80], Gen.CRYPT_SALT_TOO_CHEAP),
       ([105, 110, 105, 116, 105, 97, 108, 105, 122, 101, 100], Gen.off_initialized),
       ([105, 110, 112, 117, 116], Gen.off_input), ([105, 110, 116, 101, 114, 110, 97, 108], Gen.off_internal),
       ([111, 117, 116, 112, 117, 116], Gen.off_output), ([114, 101, 115, 101, 114, 118, 101, 100], Gen.off_reserved),
       ([115, 101, 116, 116, 105, 110, 103], Gen.off_setting), ([115, 105, 122, 101, 111, 102], Gen.sizeof_crypt_data)] := by
  decide

/-- every (symbol, version) pair of the released library is still exported, with the same default-version status -/
theorem C20_symbols : ∀ r ∈ Gen.abi_released, r ∈ Gen.abi_exported := by decide

/-- symbols that were aliases of each other in the released library are still bound to one address -/
theorem C20_aliases : ∀ c ∈ Gen.abi_released_alias_classes, ∃ d ∈ Gen.abi_alias_classes, ∀ x ∈ c, x ∈ d := by decide

/-- the compatibility-only symbols are the modern entry points under another name: xcrypt = fcrypt = crypt,
    xcrypt_r = crypt_r, crypt_gensalt_r = xcrypt_gensalt_r = crypt_gensalt_rn, xcrypt_gensalt = crypt_gensalt -/
theorem C20_compat_alias :
    (∃ d ∈ Gen.abi_alias_classes, [120, 99, 114, 121, 112, 116, 64, 88, 67, 82, 89, 80, 84, 95, 50, 46, 48] ∈ d ∧
        [102, 99, 114, 121, 112, 116, 64, 71, 76, 73, 66, 67, 95, 50, 46, 50, 46, 53] ∈ d ∧ [99, 114, 121, 112, 116, 64, 88, 67, 82, 89, 80, 84, 95, 50, 46, 48] ∈ d) ∧
    (∃ d ∈ Gen.abi_alias_classes, [120, 99, 114, 121, 112, 116, 95, 114, 64, 88, 67, 82, 89, 80, 84, 95, 50, 46, 48] ∈ d ∧
        [99, 114, 121, 112, 116, 95, 114, 64, 88, 67, 82, 89, 80, 84, 95, 50, 46, 48] ∈ d) ∧
    (∃ d ∈ Gen.abi_alias_classes, [99, 114, 121, 112, 116, 95, 103, 101, 110, 115, 97, 108, 116, 95, 114, 64, 88, 67, 82, 89, 80, 84, 95, 50, 46, 48] ∈ d ∧
        [120, 99, 114, 121, 112, 116, 95, 103, 101, 110, 115, 97, 108, 116, 95, 114, 64, 88, 67, 82, 89, 80, 84, 95, 50, 46, 48] ∈ d ∧
        [99, 114, 121, 112, 116, 95, 103, 101, 110, 115, 97, 108, 116, 95, 114, 110, 64, 88, 67, 82, 89, 80, 84, 95, 50, 46, 48] ∈ d) ∧
    (∃ d ∈ Gen.abi_alias_classes, [120, 99, 114, 121, 112, 116, 95, 103, 101, 110, 115, 97, 108, 116, 64, 88, 67, 82, 89, 80, 84, 95, 50, 46, 48] ∈ d ∧
        [99, 114, 121, 112, 116, 95, 103, 101, 110, 115, 97, 108, 116, 64, 88, 67, 82, 89, 80, 84, 95, 50, 46, 48] ∈ d) := by
  decide

end Xc.C20
