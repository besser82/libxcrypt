/-
  C19: what must hold in one configuration (`cfgOk`); `chunkOk` says it of 1024 consecutively numbered configurations.
  Thm/C19.lean proves `cfgOk n` for every `n`.
-/
import Xc.Config
import Xc.Thm.C18
namespace Xc.C19
open Xc

/-- what must hold in one configuration -/
def cfgOk (n : Nat) : Bool :=
  let en := subsetOf n
  let tbl := mkTable Gen.hashesConf en
  -- first match = unique match, empty prefixes last
  C18.prefixFree tbl &&
  -- what the authentication round trip needs (C01_roundtrip): tags begin outside the DES salt alphabet, rows carry their method's tag
  C18.TableOk tbl &&
  -- every enabled method is in the table under its own prefix and entry points, every disabled one is absent
  Gen.hashesConf.all (fun e =>
    if en e.name then tbl.any (fun h => h.crypt == e.name && h.gensalt == e.name && h.pfx == e.pfx && h.nrbytes == e.nrbytes && h.strong == e.strong)
    else tbl.all (fun h => h.crypt != e.name && h.gensalt != e.name && (e.pfx.isEmpty || h.pfx != e.pfx))) &&
  tbl.length == (Gen.hashesConf.filter fun e => en e.name).length &&
  -- the default is the first enabled default-capable method in file order, is strong, and is dispatched to itself
  (match mkDefault Gen.hashesConf en with
   | none => Gen.hashesConf.all (fun e => !(e.dflt && en e.name))
   | some p => (match getHashFn tbl p with
                | some h => h.strong && h.pfx == p && Gen.hashesConf.any (fun e => e.dflt && e.name == h.crypt)
                | none => false) &&
               checksalt tbl (some p) == .ok)

def chunkOk (k : Nat) : Bool := ((List.range 1024).map (· + 1024 * k)).all cfgOk

end Xc.C19
