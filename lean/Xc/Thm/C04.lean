/-
  C04 — memory safety and write confinement for every argument combination.
  What a model over strings and indices can carry: every scratch structure fits the aligned scratch area,
  every successful result (all 16 methods, any digests) is NUL-terminated inside the 384-byte output field,
  every gensalt write stays below output_size (C13), negative and too-small sizes are rejected before any
  object access beyond the token.  Undefined behaviour that is not index arithmetic is searched for by the
  ASan/UBSan correspondence only (see DESIGN.md).
-/
import Xc.Thm.C13
import Xc.Thm.C05
namespace Xc.C04
open Xc

/-- every method's scratch structure fits ALG_SPECIFIC_SIZE, and the aligned scratch area fits `internal` -/
theorem C04_scratch_fits :
    Gen.sizeof_md5_buffer ≤ Gen.ALG_SPECIFIC_SIZE ∧ Gen.sizeof_sha256_buffer ≤ Gen.ALG_SPECIFIC_SIZE ∧
    Gen.sizeof_sha512_buffer ≤ Gen.ALG_SPECIFIC_SIZE ∧ Gen.sizeof_des_buffer ≤ Gen.ALG_SPECIFIC_SIZE ∧
    Gen.sizeof_BF_buffer ≤ Gen.ALG_SPECIFIC_SIZE ∧ Gen.sizeof_crypt_nt_internal ≤ Gen.ALG_SPECIFIC_SIZE ∧
    Gen.sizeof_crypt_yescrypt_internal ≤ Gen.ALG_SPECIFIC_SIZE ∧ Gen.sizeof_crypt_gost_yescrypt_internal ≤ Gen.ALG_SPECIFIC_SIZE ∧
    Gen.SHA1_SIZE ≤ Gen.ALG_SPECIFIC_SIZE ∧
    Gen.sizeof_crypt_internal + Gen.alignof_crypt_internal ≤ Gen.CRYPT_DATA_INTERNAL_SIZE ∧
    Gen.sizeof_crypt_internal = Gen.ALG_SPECIFIC_SIZE := by decide

/-- the worst-case lengths the front-ends assume are within the output field -/
theorem C04_static_lengths :
    Gen.MD5_HASH_LENGTH ≤ Gen.CRYPT_OUTPUT_SIZE ∧ Gen.SHA256_HASH_LENGTH ≤ Gen.CRYPT_OUTPUT_SIZE ∧ Gen.SHA512_HASH_LENGTH ≤ Gen.CRYPT_OUTPUT_SIZE ∧
    Gen.BF_HASH_LENGTH ≤ Gen.CRYPT_OUTPUT_SIZE ∧ Gen.DES_MAX_OUTPUT_LEN ≤ Gen.CRYPT_OUTPUT_SIZE ∧
    Gen.SUNMD5_MAX_SETTING_LEN + 1 ≤ Gen.CRYPT_GENSALT_OUTPUT_SIZE ∧ Gen.size_output = Gen.CRYPT_OUTPUT_SIZE := by decide

/-- the returned string always lies within, and is NUL-terminated inside, the 384-byte output field:
    every successful result of every method is shorter than the field (this is what the repaired sha1crypt satisfies) -/
theorem C04_result_terminated (cfg : Config) (D : Digests) (hD : D.WF) (ph st : Option Bytes) (H : Bytes)
    (h : cryptAnswer cfg D ph st = .ok H) : H.length + 1 ≤ Gen.size_output := by
  have := (cryptAnswer_ok_good hD h).2.2
  have hs : Gen.size_output = 384 := by decide
  omega

/-- sha1crypt in particular: whatever the salt length, a successful result fits (the pre-fix code had no such bound) -/
theorem C04_sha1_fits (D : Digests) (p s H : Bytes) (hs : checkBadSaltChars s = false) (h : cryptSha1 D p s = .ok H) : H.length < 384 :=
  (cryptSha1_good hs h).2.2

/-- crypt_gensalt_rn writes only below max(output_size, 0) -/
theorem C04_gensalt_confined (cfg : Config) (pfx : Option Bytes) (count : Nat) (rb : Option Bytes) (nrb osize : Int) (os : Nat → Bytes) :
    ((gensaltRn cfg pfx count rb nrb osize os).ext : Int) ≤ max osize 0 := C13.C13_writes cfg pfx count rb nrb osize os

/-- negative and too-small `size` arguments of crypt_rn: nothing but the token that fits is written, scratch untouched -/
theorem C04_rn_size (cfg : Config) (D : Digests) (ph st : Option Bytes) (d : DataObj) (size : Int)
    (hsz : size < (Gen.sizeof_crypt_data : Int)) :
    (cryptRn cfg D ph st d size).2.ret = none ∧ (cryptRn cfg D ph st d size).1.scratchZero = d.scratchZero ∧
    (size ≤ 0 → (cryptRn cfg D ph st d size).1.out = d.out) := by
  have h1 : (size < 0 ∨ size < (Gen.sizeof_crypt_data : Int)) := Or.inr hsz
  refine ⟨(C05.C05_rn_small cfg D ph st d size hsz).1, ?_, ?_⟩
  · simp only [cryptRn, h1, if_true]
    cases failureToken st (min size Gen.CRYPT_OUTPUT_SIZE) <;> rfl
  · intro h0
    have : failureToken st (min size Gen.CRYPT_OUTPUT_SIZE) = none := by
      have hm : min size (Gen.CRYPT_OUTPUT_SIZE : Int) ≤ 0 := by omega
      exact (C05.C05_token_small st).2.2 _ hm
    simp [cryptRn, h1, this]

end Xc.C04
