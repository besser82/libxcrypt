/-
  C09 — working memory and passphrase copies are erased before returning.
  The object clause as a theorem over the API state machine: from ANY prior state, after a request that gets
  past argument validation the scratch areas are all zero (success or not); otherwise they are untouched.
-/
import Xc.Lemmas.Api
namespace Xc.C09

theorem tok_scratch (d : DataObj) (t : Option Bytes) :
    (match t with | some t => ({ d with out := some t } : DataObj) | none => d).scratchZero = d.scratchZero := by
  cases t <;> rfl

/-- `crypt_r` wipes the scratch areas exactly on validated requests, whatever the answer and the prior state -/
theorem cryptR_scratch (cfg : Config) (D : Digests) (tokens : Bool) (ph st : Option Bytes) (d : DataObj) :
    (cryptR cfg D tokens ph st d).1.scratchZero = (d.scratchZero || validated cfg ph st) ∧
    (cryptR cfg D tokens ph st d).2.wz = (d.scratchZero || validated cfg ph st) ∧
    (cryptR cfg D tokens ph st d).2.wu = (!validated cfg ph st || d.scratchZero) := by
  obtain ⟨c, htok, _⟩ := failureToken_big st Gen.CRYPT_OUTPUT_SIZE (by decide)
  simp only [cryptR, doCrypt_eq, mkObs, htok]
  cases ha : cryptAnswer cfg D ph st with
  | ok H => cases tokens <;> simp [cryptAnswer_ok_validated ha]
  | error e => cases tokens <;> simp

/-- crypt_r (and therefore crypt and crypt_ra, which run it on their own object) -/
theorem C09_object_r (cfg : Config) (D : Digests) (tokens : Bool) (ph st : Option Bytes) (d : DataObj) :
    (validated cfg ph st = true → (cryptR cfg D tokens ph st d).1.scratchZero = true) ∧
    (validated cfg ph st = false → (cryptR cfg D tokens ph st d).1.scratchZero = d.scratchZero) := by
  have := cryptR_scratch cfg D tokens ph st d
  constructor <;> intro hv <;> simp [this, hv]

/-- crypt_rn with a full-size object -/
theorem C09_object_rn (cfg : Config) (D : Digests) (ph st : Option Bytes) (d : DataObj) (size : Int)
    (hsz : (Gen.sizeof_crypt_data : Int) ≤ size) :
    (validated cfg ph st = true → (cryptRn cfg D ph st d size).1.scratchZero = true ∧ (cryptRn cfg D ph st d size).2.wz = true) ∧
    (validated cfg ph st = false → (cryptRn cfg D ph st d size).1.scratchZero = d.scratchZero ∧ (cryptRn cfg D ph st d size).2.wu = true) := by
  have := cryptR_scratch cfg D false ph st d
  rw [cryptRn_eq_cryptR cfg D ph st d hsz]
  constructor <;> intro hv <;> simp [this, hv]

/-- a too-small size never touches the scratch areas -/
theorem C09_object_rn_small (cfg : Config) (D : Digests) (ph st : Option Bytes) (d : DataObj) (size : Int)
    (hsz : size < (Gen.sizeof_crypt_data : Int)) : (cryptRn cfg D ph st d size).1.scratchZero = d.scratchZero := by
  have h1 : (size < 0 ∨ size < (Gen.sizeof_crypt_data : Int)) := Or.inr hsz
  simp only [cryptRn, h1, if_true]
  exact tok_scratch d _

/-- validation is exactly: both strings present, phrase shorter than 512, no forbidden character, method recognised -/
theorem C09_validated_iff (cfg : Config) (p s : Bytes) :
    validated cfg (some p) (some s) = true ↔
      p.length < Gen.CRYPT_MAX_PASSPHRASE_SIZE ∧ checkBadSaltChars s = false ∧ (getHashFn cfg.table s).isSome = true := by
  simp [validated, and_assoc]

end Xc.C09
