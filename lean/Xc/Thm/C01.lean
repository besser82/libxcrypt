/-
  C01 — authentication round trip: hashing a phrase with a stored hash as the setting reproduces the hash, and only the
  prefix, the options and the salt of a setting influence the result.  Method by method from the `_refeed` lemmas
  (`Lemmas/Fix.lean` and the files of the hard methods), then for `cryptMethod` and through the dispatch of `do_crypt`.
-/
import Xc.Lemmas.Api
import Xc.Lemmas.Fix
import Xc.Lemmas.Scrypt
import Xc.Lemmas.Sunmd5
import Xc.Lemmas.Gost
import Xc.Thm.C18
namespace Xc.C01

/-- a successful result always passes the character filter of `do_crypt`, is non-empty and
    shorter than CRYPT_OUTPUT_SIZE: it is never rejected *generically* when used as a setting -/
theorem C01_result_passes_filter (cfg : Config) (D : Digests) (hD : D.WF) (p s H : Bytes)
    (h : cryptPure cfg D p s = .ok H) : checkBadSaltChars H = false ∧ H ≠ [] ∧ H.length < Gen.CRYPT_OUTPUT_SIZE := by
  obtain ⟨_, hbad, r, _, hm⟩ := cryptPure_ok.mp h
  obtain ⟨h1, h2, h3⟩ := cryptMethod_good hD hbad hm
  exact ⟨by rw [checkBad_eq, h1]; rfl, List.ne_nil_of_length_pos h2, h3⟩

/-! ### The round trip and "only prefix, options and salt matter", method by method.

For a method `m`, `C01_m_fix` is the authentication round trip at the level of the front-end (`crypt_m_rn`):
whatever setting `s` produced `H`, hashing the same phrase with `H` as the setting reproduces `H`.
`C01_m_hashpart` is the second clause: `H` splits as `S ++ digestText`, and `S ++ t` gives `H` for EVERY text `t`
(so the hash portion of a stored hash has no influence, and neither has anything after it).
All of it holds for arbitrary digest functions `D`; all sixteen methods have their `_fix` theorem. -/

theorem refeed_fix {f : Bytes → CRes} {H S dig : Bytes} (e : H = S ++ dig) (r : ∀ t, f (S ++ t) = .ok H) : f H = .ok H := by
  have := r dig; rwa [← e] at this

theorem C01_md5crypt_fix (D : Digests) (p s H : Bytes) (h : cryptMd5 D p s = .ok H) : cryptMd5 D p H = .ok H := by
  obtain ⟨salt, e, f⟩ := cryptMd5_refeed h
  exact refeed_fix e f

theorem C01_md5crypt_hashpart (D : Digests) (p s H : Bytes) (h : cryptMd5 D p s = .ok H) :
    ∃ S dig, H = S ++ dig ∧ ∀ t, cryptMd5 D p (S ++ t) = .ok H := by
  obtain ⟨salt, e, f⟩ := cryptMd5_refeed h
  exact ⟨_, _, e, f⟩

theorem sha_fix {k : ShaKind} (hk : k.Good) {f : Bytes → Bytes → Nat → Bytes} {p s H : Bytes} (h : k.crypt f p s = .ok H) :
    k.crypt f p H = .ok H := by
  obtain ⟨P, e, r⟩ := ShaKind.crypt_refeed hk h
  exact refeed_fix e r

theorem sha_hashpart {k : ShaKind} (hk : k.Good) {f : Bytes → Bytes → Nat → Bytes} {p s H : Bytes} (h : k.crypt f p s = .ok H) :
    ∃ S dig, H = S ++ dig ∧ ∀ t, k.crypt f p (S ++ t) = .ok H := by
  obtain ⟨P, e, r⟩ := ShaKind.crypt_refeed hk h
  exact ⟨_, _, e, r⟩

theorem C01_sha256crypt_fix (D : Digests) (p s H : Bytes) (h : cryptSha256 D p s = .ok H) : cryptSha256 D p H = .ok H :=
  sha_fix sha256Kind_good (f := D.sha256crypt) h

theorem C01_sha256crypt_hashpart (D : Digests) (p s H : Bytes) (h : cryptSha256 D p s = .ok H) :
    ∃ S dig, H = S ++ dig ∧ ∀ t, cryptSha256 D p (S ++ t) = .ok H :=
  sha_hashpart sha256Kind_good (f := D.sha256crypt) h

theorem C01_sha512crypt_fix (D : Digests) (p s H : Bytes) (h : cryptSha512 D p s = .ok H) : cryptSha512 D p H = .ok H :=
  sha_fix sha512Kind_good (f := D.sha512crypt) h

theorem C01_sha512crypt_hashpart (D : Digests) (p s H : Bytes) (h : cryptSha512 D p s = .ok H) :
    ∃ S dig, H = S ++ dig ∧ ∀ t, cryptSha512 D p (S ++ t) = .ok H :=
  sha_hashpart sha512Kind_good (f := D.sha512crypt) h

theorem C01_sha1crypt_fix (D : Digests) (p s H : Bytes) (h : cryptSha1 D p s = .ok H) : cryptSha1 D p H = .ok H := by
  obtain ⟨P, e, f⟩ := cryptSha1_refeed h
  exact refeed_fix e f

theorem C01_sha1crypt_hashpart (D : Digests) (p s H : Bytes) (h : cryptSha1 D p s = .ok H) :
    ∃ S dig, H = S ++ dig ∧ ∀ t, cryptSha1 D p (S ++ t) = .ok H := by
  obtain ⟨P, e, f⟩ := cryptSha1_refeed h
  exact ⟨_, _, e, f⟩

theorem C01_nt_fix (D : Digests) (p s H : Bytes) (h : cryptNt D p s = .ok H) : cryptNt D p H = .ok H := by
  obtain ⟨e, f⟩ := cryptNt_refeed h
  exact refeed_fix (e.trans (List.append_assoc _ _ _)) f

theorem C01_nt_hashpart (D : Digests) (p s H : Bytes) (h : cryptNt D p s = .ok H) :
    ∀ t, cryptNt D p (ntMagic ++ t) = .ok H := (cryptNt_refeed h).2

theorem C01_descrypt_fix (D : Digests) (p s H : Bytes) (h : cryptDes D p s = .ok H) : cryptDes D p H = .ok H := by
  obtain ⟨salt, e, f⟩ := cryptDes_refeed h
  exact refeed_fix e f

theorem C01_descrypt_hashpart (D : Digests) (p s H : Bytes) (h : cryptDes D p s = .ok H) :
    ∃ S dig, H = S ++ dig ∧ S.length = 2 ∧ ∀ t, cryptDes D p (S ++ t) = .ok H := by
  obtain ⟨salt, e, f⟩ := cryptDes_refeed h
  exact ⟨_, _, e, rfl, f⟩

theorem C01_bsdicrypt_fix (D : Digests) (p s H : Bytes) (h : cryptBsdi D p s = .ok H) : cryptBsdi D p H = .ok H := by
  obtain ⟨salt, count, _, e, f⟩ := cryptBsdi_refeed h
  exact refeed_fix e f

theorem C01_bsdicrypt_hashpart (D : Digests) (p s H : Bytes) (h : cryptBsdi D p s = .ok H) :
    ∃ dig, H = s.take 9 ++ dig ∧ ∀ t, cryptBsdi D p (s.take 9 ++ t) = .ok H := by
  obtain ⟨salt, count, _, e, f⟩ := cryptBsdi_refeed h
  exact ⟨_, e, f⟩

/-- bigcrypt: the round trip (its setting length is part of its semantics, so the second clause holds for text of the same
    length only: `cryptBig_hashpart`) -/
theorem C01_bigcrypt_fix (d : Bool) (D : Digests) (hD : D.WF) (p s H : Bytes) (h : cryptBig d D p s = .ok H) :
    cryptBig d D p H = .ok H := cryptBig_fix d D hD p s H h

/-- bcrypt (all four subtypes): 28 characters of the setting, the 29th with its four unused bits cleared, then the digest -/
theorem C01_bcrypt_fix (D : Digests) (p s H : Bytes) (h : cryptBf D p s = .ok H) : cryptBf D p H = .ok H := by
  obtain ⟨c22, P, _, e, f⟩ := cryptBf_refeed h
  exact refeed_fix e f

theorem C01_bcrypt_hashpart (D : Digests) (p s H : Bytes) (h : cryptBf D p s = .ok H) :
    ∃ S dig, H = S ++ dig ∧ S.length = 29 ∧ ∀ t, cryptBf D p (S ++ t) = .ok H := by
  obtain ⟨c22, P, hl, e, f⟩ := cryptBf_refeed h
  exact ⟨s.take 28 ++ [c22], _, e, by simp; omega, f⟩

theorem cryptYescryptCore_refeed {D : Digests} {p s H : Bytes} (h : cryptYescryptCore D p s = .ok H) :
    ∃ k dig, k ≤ s.length ∧ 3 < k ∧ H = s.take k ++ [36] ++ dig ∧ (36 : UInt8) ∉ dig ∧
      ∀ t, (36 : UInt8) ∉ t → cryptYescryptCore D p (s.take k ++ [36] ++ t) = .ok H := by
  obtain ⟨k, dig, hk1, hk2, e, hd, f⟩ := yescryptR_refeed (cryptYescryptCore_ok.mp h)
  refine ⟨k, dig, hk1, hk2, by rw [e]; simp, hd, fun t ht => cryptYescryptCore_ok.mpr ?_⟩
  rw [e, List.append_assoc]; exact f t ht

/-- yescrypt (`$y$`, the default method): the parameters are read below `prefixlen`, the salt string ends at the last `$` -/
theorem C01_yescrypt_fix (D : Digests) (p s H : Bytes) (h : cryptYescrypt D p s = .ok H) : cryptYescrypt D p H = .ok H := by
  obtain ⟨k, dig, _, _, e, hd, f⟩ := cryptYescryptCore_refeed h
  have := f dig hd; rwa [← e] at this

/-- only the parameters and the salt matter: any text free of `$` may follow the `$` that ends the salt -/
theorem C01_yescrypt_hashpart (D : Digests) (p s H : Bytes) (h : cryptYescrypt D p s = .ok H) :
    ∃ S dig, H = S ++ dig ∧ ∀ t, (36 : UInt8) ∉ t → cryptYescrypt D p (S ++ t) = .ok H := by
  obtain ⟨k, dig, _, _, e, _, f⟩ := cryptYescryptCore_refeed h
  exact ⟨_, _, e, f⟩

/-- scrypt (`$7$`): the kept part of the setting consists of salt characters only, so `verify_salt` accepts the result -/
theorem C01_scrypt_fix (D : Digests) (p s H : Bytes) (h : cryptScrypt D p s = .ok H) : cryptScrypt D p H = .ok H :=
  cryptScrypt_fix D p s H h

/-- sunmd5: every spelling of the salt's end (`salt`, `salt$`, `salt$$`, `salt$x…`) is reproduced by the result -/
theorem C01_sunmd5_fix (D : Digests) (p s H : Bytes) (h : cryptSunmd5 D p s = .ok H) : cryptSunmd5 D p H = .ok H :=
  cryptSunmd5_fix D p s H h

/-- gost-yescrypt (`$gy$`): the inner `$y$` call re-reads its own parameters and salt; the outer hash is keyed by the same
    leading part of the setting; the result is short enough to pass the size pre-check again (parameters ≤ 76, salt ≤ 86 characters) -/
theorem C01_gost_fix (D : Digests) (hD : D.WF) (p s H : Bytes) (h : cryptGost D p s = .ok H) : cryptGost D p H = .ok H :=
  cryptGost_fix D hD p s H h

/-- non-vacuity: concrete settings meet the hypotheses (kernel-evaluated with the executable digests abstracted away) -/
example (D : Digests) : ∃ H, cryptMd5 D [112, 119] [36, 49, 36, 115, 97, 108, 116] = .ok H := ⟨_, rfl⟩
example (D : Digests) : ∃ H, cryptDes D [112, 119] [97, 98] = .ok H := ⟨_, rfl⟩

/-! ### re-dispatch -/

section Table
variable {tbl : List HashEntry} (hT : C18.TableOk tbl = true) {r : HashEntry} (hr : r ∈ tbl)
include hT hr

theorem tableOk_plen : r.plen = r.pfx.length := by
  simp only [C18.TableOk, C18.prefixFree, Bool.and_eq_true, List.all_eq_true] at hT
  simpa using hT.1.1.1.1 r hr

theorem tableOk_tag : r.pfx = C18.tagOf r.crypt := by
  simp only [C18.TableOk, Bool.and_eq_true, List.all_eq_true] at hT
  simpa using hT.2 r hr

theorem tag_not_des (hne : r.pfx ≠ []) {H : Bytes} (hp : r.pfx <+: H) : isDesSaltChar (cat H 0) = false := by
  simp only [C18.TableOk, Bool.and_eq_true, List.all_eq_true] at hT
  have := hT.1.2 r hr
  obtain ⟨t, rfl⟩ := hp
  cases hrp : r.pfx with
  | nil => exact absurd hrp hne
  | cons c cs => rw [hrp] at this; simpa [cat] using this

end Table

theorem tableOk_prefixFree {tbl : List HashEntry} (hT : C18.TableOk tbl = true) : C18.prefixFree tbl = true := by
  simp only [C18.TableOk, Bool.and_eq_true] at hT; exact hT.1.1

theorem matches_iff {r : HashEntry} (hp : r.plen = r.pfx.length) (s : Bytes) : r.matches s = true ↔
    if r.pfx = [] then s = [] ∨ (isDesSaltChar (cat s 0) = true ∧ isDesSaltChar (cat s 1) = true) else r.pfx <+: s := by
  unfold HashEntry.matches
  rw [hp]
  by_cases he : r.pfx = []
  · simp [he]
  · have : 0 < r.pfx.length := List.length_pos_iff.mpr he
    simp [he, this, hasPrefix]

theorem redispatch (tbl : List HashEntry) (hT : C18.TableOk tbl = true) (s H : Bytes) (r : HashEntry)
    (hs : getHashFn tbl s = some r)
    (hH : (r.pfx ≠ [] ∧ r.pfx <+: H) ∨ (r.pfx = [] ∧ isDesSaltChar (cat H 0) = true ∧ isDesSaltChar (cat H 1) = true ∧ H ≠ [])) :
    getHashFn tbl H = some r := by
  unfold getHashFn at hs ⊢
  rw [List.find?_eq_some_iff_append] at hs ⊢
  obtain ⟨hm, as, bs, htbl, hbefore⟩ := hs
  have rmem : r ∈ tbl := by rw [htbl]; simp
  have hmH : r.matches H = true := by
    rw [matches_iff (tableOk_plen hT rmem)]
    rcases hH with ⟨hne, hpre⟩ | ⟨he, d0, d1, _⟩
    · rw [if_neg hne]; exact hpre
    · rw [if_pos he]; exact Or.inr ⟨d0, d1⟩
  refine ⟨hmH, as, bs, htbl, fun x hx => ?_⟩
  -- an earlier row `x` that matched `H` would be `r` itself, or would have matched `s`, or mixes a tag with a DES salt character
  have xmem : x ∈ tbl := by rw [htbl]; simp [hx]
  have xns := hbefore x hx
  simp only [Bool.not_eq_true'] at xns ⊢
  cases hxm : x.matches H with
  | false => rfl
  | true =>
    exfalso
    rw [matches_iff (tableOk_plen hT xmem)] at hxm
    rw [matches_iff (tableOk_plen hT rmem)] at hm
    by_cases hxe : x.pfx = []
    · rw [if_pos hxe] at hxm
      rcases hH with ⟨hne, hpre⟩ | ⟨he, _⟩
      · rcases hxm with rfl | ⟨d0, _⟩
        · exact hne (List.prefix_nil.mp hpre)
        · rw [tag_not_des hT rmem hne hpre] at d0; cases d0
      · have : x.matches s = true := by rw [matches_iff (tableOk_plen hT xmem), if_pos hxe]; rwa [if_pos he] at hm
        rw [this] at xns; cases xns
    · rw [if_neg hxe] at hxm
      rcases hH with ⟨hne, hpre⟩ | ⟨_, d0, _⟩
      · have := C18.C18_unique_match tbl (tableOk_prefixFree hT) H x r xmem rmem hxe hne
          ((matches_iff (tableOk_plen hT xmem) H).mpr (by rwa [if_neg hxe])) hmH
        subst this
        rw [(matches_iff (tableOk_plen hT xmem) s).mpr hm] at xns; cases xns
      · rw [tag_not_des hT xmem hxe hxm] at d0; cases d0

theorem isDes_a64' (n : Nat) : isDesSaltChar (a64 n) = true := ascii64_des _ (a64_mem_ascii64 n)

/-- what makes the setting part `S` of a result select the same table row as the setting `s` it came from (`dispatch_keeps`) -/
def Keeps (tag s S : Bytes) : Prop :=
  max 2 tag.length ≤ S.length ∧ (tag <+: s → tag <+: S) ∧
    (tag = [] → isDesSaltChar (cat S 0) = true ∧ isDesSaltChar (cat S 1) = true)

theorem Keeps.mono {tag s S S' : Bytes} (h : Keeps tag s S) (hp : S <+: S') : Keeps tag s S' := by
  obtain ⟨t, rfl⟩ := hp
  have h2 : 2 ≤ S.length := Nat.le_trans (Nat.le_max_left _ _) h.1
  refine ⟨by rw [List.length_append]; exact Nat.le_trans h.1 (Nat.le_add_right _ _), fun hs => (h.2.1 hs).trans (List.prefix_append _ _), ?_⟩
  rw [cat_append_left t (by omega), cat_append_left t (by omega)]; exact h.2.2

theorem Keeps.lit {tag s lit : Bytes} (hne : tag ≠ []) (hp : tag <+: lit) (h2 : 2 ≤ lit.length) : Keeps tag s lit :=
  ⟨Nat.max_le.mpr ⟨h2, hp.length_le⟩, fun _ => hp, fun h => absurd h hne⟩

theorem Keeps.take {tag s : Bytes} {k : Nat} (hne : tag ≠ []) (hk : max 2 tag.length ≤ k) (hks : k ≤ s.length) : Keeps tag s (s.take k) :=
  ⟨by rw [List.length_take, Nat.min_eq_left hks]; exact hk,
   fun hs => List.prefix_take_iff.mpr ⟨hs, Nat.le_trans (Nat.le_max_right _ _) hk⟩, fun h => absurd h hne⟩

theorem Keeps.des (s : Bytes) (x y : Nat) : Keeps [] s [a64 x, a64 y] :=
  ⟨by simp, fun _ => List.nil_prefix, fun _ => ⟨isDes_a64' x, isDes_a64' y⟩⟩

theorem dispatch_keeps {tbl : List HashEntry} (hT : C18.TableOk tbl = true) {s S : Bytes} {r : HashEntry}
    (hr : getHashFn tbl s = some r) (hk : Keeps (C18.tagOf r.crypt) s S) (t : Bytes) : getHashFn tbl (S ++ t) = some r := by
  have rmem : r ∈ tbl := List.mem_of_find?_eq_some hr
  have rmatch : r.matches s = true := by simpa using List.find?_some hr
  rw [matches_iff (tableOk_plen hT rmem)] at rmatch
  obtain ⟨h1, h2, h3⟩ := (tableOk_tag hT rmem ▸ hk).mono (List.prefix_append S t)
  refine redispatch tbl hT s (S ++ t) r hr ?_
  by_cases he : r.pfx = []
  · exact Or.inr ⟨he, (h3 he).1, (h3 he).2, List.ne_nil_of_length_pos (Nat.lt_of_lt_of_le (by decide) (Nat.le_trans (Nat.le_max_left _ _) h1))⟩
  · rw [if_neg he] at rmatch
    exact Or.inl ⟨he, h2 rmatch⟩

/-- **C01 at the level of one method**: a successful result reproduces itself; it is `S ++ dig` where `S` `Keeps` the method's tag,
    and `S` followed by ANY text over the hash alphabets of the digest text's length gives the result again -/
theorem cryptMethod_refeed (d : Bool) (D : Digests) (hD : D.WF) (m : Method) (p s H : Bytes) (h : cryptMethod d D m p s = .ok H) :
    ∃ S dig, H = S ++ dig ∧ Keeps (C18.tagOf m) s S ∧ cryptMethod d D m p H = .ok H ∧
      ∀ t, t.length = dig.length → HashText t → cryptMethod d D m p (S ++ t) = .ok H := by
  cases m <;> simp only [cryptMethod] at h ⊢
  case md5crypt =>
    obtain ⟨salt, e, f⟩ := cryptMd5_refeed h
    exact ⟨_, _, e, (Keeps.lit (by decide) (by decide : C18.tagOf .md5crypt <+: Gen.md5_salt_prefix) (by decide)).mono (by simp),
      refeed_fix e f, fun t _ _ => f t⟩
  case sha256crypt =>
    obtain ⟨P, e, f⟩ := ShaKind.crypt_refeed sha256Kind_good (f := D.sha256crypt) h
    exact ⟨_, _, e, (Keeps.lit (by decide) (by decide : C18.tagOf .sha256crypt <+: sha256Kind.pfx) (by decide)).mono (sha256Kind.pfx_prefix_emit P []),
      refeed_fix e f, fun t _ _ => f t⟩
  case sha512crypt =>
    obtain ⟨P, e, f⟩ := ShaKind.crypt_refeed sha512Kind_good (f := D.sha512crypt) h
    exact ⟨_, _, e, (Keeps.lit (by decide) (by decide : C18.tagOf .sha512crypt <+: sha512Kind.pfx) (by decide)).mono (sha512Kind.pfx_prefix_emit P []),
      refeed_fix e f, fun t _ _ => f t⟩
  case sha1crypt =>
    obtain ⟨P, e, f⟩ := cryptSha1_refeed h
    exact ⟨_, _, e, (Keeps.lit (by decide) (by decide : C18.tagOf .sha1crypt <+: sha1Magic) (by decide)).mono (by simp),
      refeed_fix e f, fun t _ _ => f t⟩
  case nt =>
    obtain ⟨e, f⟩ := cryptNt_refeed h
    exact ⟨ntMagic ++ [36], _, e, (Keeps.lit (by decide) (by decide : C18.tagOf .nt <+: ntMagic) (by decide)).mono (by simp),
      C01_nt_fix D p s H h, fun t _ _ => by rw [List.append_assoc]; exact f _⟩
  case descrypt =>
    obtain ⟨salt, e, f⟩ := cryptDes_refeed h
    exact ⟨_, _, e, Keeps.des s _ _, refeed_fix e f, fun t _ _ => f t⟩
  case bsdicrypt =>
    obtain ⟨salt, count, h9, e, f⟩ := cryptBsdi_refeed h
    exact ⟨_, _, e, Keeps.take (by decide) (by decide) h9, refeed_fix e f, fun t _ _ => f t⟩
  case bcrypt | bcrypt_y | bcrypt_a | bcrypt_x =>
    obtain ⟨c22, P, hl, e, f⟩ := cryptBf_refeed h
    exact ⟨_, _, e, (Keeps.take (by decide) (by decide) (Nat.le_of_lt hl)).mono (by simp), refeed_fix e f, fun t _ _ => f t⟩
  case yescrypt =>
    obtain ⟨k, dig, hk1, hk2, e, hd, f⟩ := cryptYescryptCore_refeed h
    exact ⟨_, _, e, (Keeps.take (by decide) (Nat.max_le.mpr ⟨by omega, Nat.le_trans (by decide) hk2⟩) hk1).mono (by simp),
      C01_yescrypt_fix D p s H h, fun t _ ht => f t ht.no36⟩
  case scrypt =>
    obtain ⟨k, hd, hk, hle, e, f⟩ := cryptScrypt_refeed h
    exact ⟨s.take k ++ [36], encode64 hd, by rw [e]; simp,
      (Keeps.take (by decide) (Nat.max_le.mpr ⟨by omega, Nat.le_trans (by decide) hk⟩) hle).mono (by simp),
      C01_scrypt_fix D p s H h, fun t _ ht => by rw [List.append_assoc]; exact f t ht.valid ht.no36⟩
  case gost_yescrypt =>
    obtain ⟨Q, hd, k, _, _, _, _, h5, h163, hkS, e, f⟩ := cryptGost_struct h
    have hdl : (encode64 (D.gostOuter p (s.take k) hd)).length = 43 := by rw [encode64_length, hD.gost]; decide
    have hc : Gen.CRYPT_OUTPUT_SIZE = 384 := by decide
    exact ⟨s.take k ++ [36], encode64 (D.gostOuter p (s.take k) hd), by rw [e]; simp,
      (Keeps.take (by decide) (Nat.max_le.mpr ⟨by omega, Nat.le_trans (by decide) h5⟩) hkS).mono (by simp),
      C01_gost_fix D hD p s H h, fun t htl ht => by rw [List.append_assoc]; exact f t ht.no36 (by rw [htl, hdl, hc]; omega)⟩
  case sunmd5 =>
    obtain ⟨P, _, h5, hl, e, f⟩ := cryptSunmd5_refeed h
    refine ⟨s.take P.saltlen ++ [36], permEncode Gen.perm_sunmd5 (D.sunmd5 p (s.take P.saltlen) P.nrounds), by rw [e]; simp,
      (Keeps.take (by decide) (Nat.max_le.mpr ⟨by omega, Nat.le_trans (by decide) h5⟩) hl).mono (by simp),
      C01_sunmd5_fix D p s H h, fun t htl ht => ?_⟩
    obtain ⟨a, b⟩ := ht.head (List.ne_nil_of_length_pos (by rw [htl, permEncode_length, sunmd5_facts]; decide))
    rw [List.append_assoc]; exact f t a b
  case bigcrypt =>
    have hfix := cryptBig_fix d D hD p s H h
    obtain ⟨salt, _, e⟩ := cryptBig_shape h
    refine ⟨H.take 2, H.drop 2, (List.take_append_drop 2 H).symm, ?_, hfix, fun t htl _ => ?_⟩
    · rcases e with rfl | rfl <;> exact Keeps.des s _ _
    · exact cryptBig_hashpart d D p H H hfix t (by simp at htl; omega) (by rcases e with rfl | rfl <;> simp)

theorem hashpart_method (d : Bool) (D : Digests) (hD : D.WF) (m : Method) (p s H : Bytes) (h : cryptMethod d D m p s = .ok H) :
    HashPart (cryptMethod d D m p) H (max 2 (C18.tagOf m).length) := by
  obtain ⟨S, dig, e, hk, _, f⟩ := cryptMethod_refeed d D hD m p s H h
  exact ⟨S, dig, e, hk.1, f⟩

/-- **C01, both clauses, at the level of the API** (`do_crypt`: length check, character filter, dispatch, method), for every
    configuration whose table is `C18.TableOk`, arbitrary digests, every phrase and every setting, whichever of the sixteen methods
    it is dispatched to: the result `H = S ++ dig` is accepted again and reproduces itself, and `S` followed by any text is
    dispatched to the same table row as the setting; followed by text over the hash alphabets of `dig`'s length it gives `H` again -/
theorem cryptPure_refeed (cfg : Config) (hT : C18.TableOk cfg.table = true) (D : Digests) (hD : D.WF) (p s H : Bytes)
    (h : cryptPure cfg D p s = .ok H) :
    ∃ S dig, H = S ++ dig ∧ cryptPure cfg D p H = .ok H ∧ (∀ t, getHashFn cfg.table (S ++ t) = getHashFn cfg.table s) ∧
      ∀ t, t.length = dig.length → HashText t → cryptPure cfg D p (S ++ t) = .ok H := by
  obtain ⟨hlen, hbad, r, hr, hm⟩ := cryptPure_ok.mp h
  obtain ⟨S, dig, e, hk, hfix, f⟩ := cryptMethod_refeed cfg.descryptOn D hD r.crypt p s H hm
  have hdisp := dispatch_keeps hT hr hk
  have hH : passwdSafe H = true := (cryptMethod_good hD hbad hm).1
  have hS : passwdSafe S = true := passwdSafe_of_sublist hH (e ▸ (List.prefix_append S dig).sublist)
  exact ⟨S, dig, e, cryptPure_ok.mpr ⟨hlen, by rw [checkBad_eq, hH]; rfl, r, e ▸ hdisp dig, hfix⟩, fun t => (hdisp t).trans hr.symm,
    fun t htl ht => cryptPure_ok.mpr ⟨hlen, by rw [checkBad_eq, passwdSafe_append, hS, ht.safe]; rfl, r, hdisp t, f t htl ht⟩⟩

/-- **C01, both clauses, at the level of the API** (`do_crypt`: length check, character filter, dispatch, method):
    for every configuration whose table is `C18.TableOk` (the tree's is: `C18.tableOk_tree`), arbitrary digests, every phrase
    and every setting, whichever of the sixteen methods it is dispatched to: the result is accepted again, dispatched to the
    same table row, and reproduces itself. -/
theorem C01_roundtrip_row (cfg : Config) (hT : C18.TableOk cfg.table = true) (D : Digests) (hD : D.WF) (p s H : Bytes)
    (h : cryptPure cfg D p s = .ok H) :
    cryptPure cfg D p H = .ok H ∧ getHashFn cfg.table H = getHashFn cfg.table s := by
  obtain ⟨S, dig, e, hfix, hrow, _⟩ := cryptPure_refeed cfg hT D hD p s H h
  exact ⟨hfix, e ▸ hrow dig⟩

/-- **C01, both clauses, at the level of the API** — see `C01_roundtrip_row`, which also says that the result is dispatched to the
    same table row as the setting -/
theorem C01_roundtrip (cfg : Config) (hT : C18.TableOk cfg.table = true) (D : Digests) (hD : D.WF) (p s H : Bytes)
    (h : cryptPure cfg D p s = .ok H) : cryptPure cfg D p H = .ok H :=
  (C01_roundtrip_row cfg hT D hD p s H h).1

/-- **C01, second clause, at the level of the API**: a successful result splits as `H = S ++ dig` (prefix, options, salt | hash
    portion) and hashing the same phrase with `S` followed by ANY text of the same length over `./0-9A-Za-z` — a superset of every
    method's hash alphabet — returns `H` again: through the length check, the character filter, the dispatch (same table row) and
    the method.  Every configuration whose table is `TableOk`. -/
theorem C01_hashpart_api (cfg : Config) (hT : C18.TableOk cfg.table = true) (D : Digests) (hD : D.WF) (p s H : Bytes)
    (h : cryptPure cfg D p s = .ok H) :
    ∃ S dig, H = S ++ dig ∧ ∀ t, t.length = dig.length → HashText t → cryptPure cfg D p (S ++ t) = .ok H := by
  obtain ⟨S, dig, e, _, _, f⟩ := cryptPure_refeed cfg hT D hD p s H h
  exact ⟨S, dig, e, f⟩

end Xc.C01
