/-
  C05 — failures are fail-closed: NULL or '*' token, never a usable or stale hash.
  All statements quantify over an ARBITRARY prior object state `d` (fresh, holding a
  previous success, a previous failure, or garbage), any configuration, any digests.
-/
import Xc.Lemmas.Api

namespace Xc.C05

/-! ### which requests fail (the pure answer) -/

theorem C05_reject_null (cfg : Config) (D : Digests) (x : Option Bytes) :
    cryptAnswer cfg D none x = .error .EINVAL ∧ cryptAnswer cfg D x none = .error .EINVAL := by
  cases x <;> simp [cryptAnswer]

theorem C05_reject_long (cfg : Config) (D : Digests) (p s : Bytes) (h : Gen.CRYPT_MAX_PASSPHRASE_SIZE ≤ p.length) :
    cryptAnswer cfg D (some p) (some s) = .error .ERANGE := by
  simp [cryptAnswer, cryptPure, h]

/-- a byte that is not printable ASCII, or one of `: ; * ! \`, anywhere in the setting -/
theorem C05_reject_chars (cfg : Config) (D : Digests) (p s : Bytes) (hp : p.length < Gen.CRYPT_MAX_PASSPHRASE_SIZE)
    (c : UInt8) (hc : c ∈ s) (hbad : c ≤ 0x20 ∨ c ≥ 0x7f ∨ c = 33 ∨ c = 42 ∨ c = 58 ∨ c = 59 ∨ c = 92) :
    cryptAnswer cfg D (some p) (some s) = .error .EINVAL := by
  have hb : isBadSaltChar c = true := by
    simp only [isBadSaltChar, Bool.or_eq_true, decide_eq_true_eq, beq_iff_eq]
    rcases hbad with h | h | h | h | h | h | h <;> simp [h]
  have : checkBadSaltChars s = true := by
    simp only [checkBadSaltChars, List.any_eq_true]; exact ⟨c, hc, hb⟩
  have hp' : ¬ p.length ≥ Gen.CRYPT_MAX_PASSPHRASE_SIZE := by omega
  simp [cryptAnswer, cryptPure, this, hp']

theorem C05_reject_unknown (cfg : Config) (D : Digests) (p s : Bytes) (h : getHashFn cfg.table s = none) :
    ∃ e, cryptAnswer cfg D (some p) (some s) = .error e := by
  simp only [cryptAnswer, cryptPure, h]
  split; · exact ⟨_, rfl⟩
  split <;> exact ⟨_, rfl⟩

/-- every failing request fails with EINVAL or ERANGE -/
theorem C05_errno (cfg : Config) (D : Digests) (ph st : Option Bytes) (e : Errno)
    (h : cryptAnswer cfg D ph st = .error e) : e = .EINVAL ∨ e = .ERANGE := cryptAnswer_err h

/-! ### what the entry points return and leave behind -/

/-- crypt_r returns the token (failure tokens enabled) exactly when crypt_rn returns NULL -/
theorem C05_r_fail (cfg : Config) (D : Digests) (ph st : Option Bytes) (d : DataObj) (tokens : Bool) (e : Errno)
    (h : cryptAnswer cfg D ph st = .error e) :
    (cryptR cfg D tokens ph st d).1.out = failureToken st Gen.CRYPT_OUTPUT_SIZE ∧
    (cryptR cfg D tokens ph st d).2.errno = some e ∧
    (cryptR cfg D tokens ph st d).2.ret = (if tokens then failureToken st Gen.CRYPT_OUTPUT_SIZE else none) := by
  obtain ⟨c, htok, _⟩ := failureToken_big st Gen.CRYPT_OUTPUT_SIZE (by decide)
  simp only [cryptR, doCrypt_eq, h, htok, mkObs]
  cases tokens <;> simp

theorem C05_r_ok (cfg : Config) (D : Digests) (ph st : Option Bytes) (d : DataObj) (tokens : Bool) (H : Bytes)
    (h : cryptAnswer cfg D ph st = .ok H) (hD : D.WF) :
    (cryptR cfg D tokens ph st d).2.ret = some H ∧ (cryptR cfg D tokens ph st d).1.out = some H ∧
    (cryptR cfg D tokens ph st d).2.errno = none := by
  obtain ⟨c, rest, rfl, hc⟩ := goodHash_nostar (cryptAnswer_ok_good hD h)
  simp only [cryptR, doCrypt_eq, h, mkObs]
  cases tokens <;> (split <;> simp_all)

/-- crypt_rn with a full-size object, request succeeds: returns the hash, which is what `output` holds -/
theorem C05_rn_ok (cfg : Config) (D : Digests) (ph st : Option Bytes) (d : DataObj) (size : Int)
    (hsz : (Gen.sizeof_crypt_data : Int) ≤ size) (H : Bytes) (h : cryptAnswer cfg D ph st = .ok H) (hD : D.WF) :
    (cryptRn cfg D ph st d size).2.ret = some H ∧ (cryptRn cfg D ph st d size).2.errno = none ∧
    (cryptRn cfg D ph st d size).1.out = some H := by
  rw [cryptRn_eq_cryptR cfg D ph st d hsz]
  have := C05_r_ok cfg D ph st d false H h hD
  exact ⟨this.1, this.2.2, this.2.1⟩

/-- crypt_rn, request fails (any reason, any prior state): NULL, errno of the pure answer,
    and `output` holds exactly the failure token — never an earlier hash -/
theorem C05_rn_fail (cfg : Config) (D : Digests) (ph st : Option Bytes) (d : DataObj) (size : Int)
    (hsz : (Gen.sizeof_crypt_data : Int) ≤ size) (e : Errno) (h : cryptAnswer cfg D ph st = .error e) :
    (cryptRn cfg D ph st d size).2.ret = none ∧ (cryptRn cfg D ph st d size).2.errno = some e ∧
    (cryptRn cfg D ph st d size).1.out = failureToken st Gen.CRYPT_OUTPUT_SIZE := by
  rw [cryptRn_eq_cryptR cfg D ph st d hsz]
  have := C05_r_fail cfg D ph st d false e h
  exact ⟨this.2.2, this.2.1, this.1⟩

/-- crypt_rn with a too-small or negative size: ERANGE, NULL, and only the token that fits is written -/
theorem C05_rn_small (cfg : Config) (D : Digests) (ph st : Option Bytes) (d : DataObj) (size : Int)
    (hsz : size < (Gen.sizeof_crypt_data : Int)) :
    (cryptRn cfg D ph st d size).2.ret = none ∧ (cryptRn cfg D ph st d size).2.errno = some .ERANGE ∧
    (cryptRn cfg D ph st d size).1.out =
      (match failureToken st (min size Gen.CRYPT_OUTPUT_SIZE) with | some t => some t | none => d.out) := by
  have h1 : (size < 0 ∨ size < (Gen.sizeof_crypt_data : Int)) := Or.inr hsz
  simp only [cryptRn, h1, if_true]
  split <;> rename_i heq <;> simp [heq]

/-! ### the token itself -/

/-- for sizes ≥ 3 the token is "*0" or "*1": starts with '*', shorter than 13 characters,
    differs from the setting, and is itself rejected as a setting by every entry point -/
theorem C05_token (cfg : Config) (D : Digests) (st : Option Bytes) (size : Int) (h3 : 3 ≤ size) :
    ∃ t, failureToken st size = some t ∧ t.length = 2 ∧ t.head? = some 42 ∧ st ≠ some t ∧
      (∀ p, ∃ e, cryptAnswer cfg D (some p) (some t) = .error e) ∧ checksalt cfg.table (some t) = .invalid := by
  obtain ⟨c, htok, _⟩ := failureToken_big st size h3
  have hb : checkBadSaltChars [42, c] = true := by simp [checkBadSaltChars, isBadSaltChar]
  refine ⟨[42, c], htok, rfl, rfl, Ne.symm (htok ▸ failureToken_ne st size h3), fun p => ?_, by simp [checksalt, hb]⟩
  simp only [cryptAnswer, cryptPure, hb, if_true]
  split <;> exact ⟨_, rfl⟩

/-- truncated tokens for sizes 2, 1 and nothing at all for sizes ≤ 0 -/
theorem C05_token_small (st : Option Bytes) :
    failureToken st 2 = some [42] ∧ failureToken st 1 = some [] ∧ ∀ n : Int, n ≤ 0 → failureToken st n = none := by
  refine ⟨by simp [failureToken], by simp [failureToken], ?_⟩
  intro n hn; unfold failureToken
  rw [if_neg (by omega), if_neg (by omega), if_neg (by omega)]

/-- **no stale hash**: whatever the object held before (in particular the hash of an earlier call),
    after a failing call `output` does not hold any well-formed hash -/
theorem C05_no_stale (cfg : Config) (D : Digests) (ph st : Option Bytes) (d : DataObj) (size : Int)
    (hsz : (Gen.sizeof_crypt_data : Int) ≤ size) (e : Errno) (h : cryptAnswer cfg D ph st = .error e)
    (Hold : Bytes) (hold : goodHash Hold) :
    (cryptRn cfg D ph st d size).1.out ≠ some Hold ∧ (cryptR cfg D true ph st d).1.out ≠ some Hold ∧
    (cryptR cfg D true ph st d).2.ret ≠ some Hold := by
  obtain ⟨c, htok, _⟩ := failureToken_big st Gen.CRYPT_OUTPUT_SIZE (by decide)
  obtain ⟨c', rest, rfl, hc'⟩ := goodHash_nostar hold
  have e1 := (C05_rn_fail cfg D ph st d size hsz e h).2.2
  have e2 := C05_r_fail cfg D ph st d true e h
  rw [e1, e2.1, e2.2.2, htok]
  simp only [if_true, ne_eq, Option.some.injEq, List.cons.injEq, not_and]
  exact ⟨fun h => absurd h.symm hc', fun h => absurd h.symm hc', fun h => absurd h.symm hc'⟩

/-! Non-vacuity -/
example : failureToken (some [42, 48, 120]) 384 = some [42, 49] := by decide
example : failureToken (some [36, 49, 36]) 384 = some [42, 48] := by decide
example : checkBadSaltChars [36, 54, 36, 58] = true := by decide

end Xc.C05
