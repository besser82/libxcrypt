/-
  C03 — a different passphrase or salt never reproduces the hash (no false accept).
  Read literally the property is false for any fixed-size digest (pigeonhole), so the theorems carry the
  structural part a proof can carry and a truncation bug would break:
   * the exact *insignificant* windows (descrypt: bytes beyond 8 and the 8th bit; bigcrypt: bytes beyond 128; bcrypt: beyond 72);
   * the text encodings of digests are injective, hence any false accept IS a collision of the method's
     core function on its exact inputs (reduction), never an artefact of parsing or encoding.
-/
import Xc.Thm.C01
import Xc.Lemmas.BfWindow
namespace Xc.C03
open List

/-- descrypt uses the phrase only through `desKey`: its first 8 bytes shifted left by one (the 8th bit falls out) -/
theorem C03_des_window (D : Digests) (p p' s : Bytes) (h : desKey p = desKey p') : cryptDes D p s = cryptDes D p' s := by
  simp [cryptDes, h]

theorem desKey_window (p p' : Bytes) (h : ∀ i, i < 8 → (p.getD i 0) <<< (1 : UInt8) = (p'.getD i 0) <<< (1 : UInt8)) : desKey p = desKey p' := by
  simp only [desKey, padTo, List.map_map]
  apply List.map_congr_left
  intro i hi
  simp only [List.mem_range] at hi
  simpa using h i hi

theorem desKey_append8 (p tail tail' : Bytes) (h8 : 8 ≤ p.length) : desKey (p ++ tail) = desKey (p ++ tail') := by
  apply desKey_window
  intro i hi
  have hi' : i < p.length := by omega
  simp [List.getD, List.getElem?_append_left hi']

/-- bytes beyond the eighth are insignificant for descrypt -/
theorem C03_des_beyond8 (D : Digests) (p s tail tail' : Bytes) (h8 : p.length = 8) :
    cryptDes D (p ++ tail) s = cryptDes D (p ++ tail') s :=
  C03_des_window D _ _ s (desKey_append8 p tail tail' (Nat.le_of_eq h8.symm))

/-- the 8th bit of every byte is insignificant for descrypt -/
theorem C03_des_8thbit (D : Digests) (p s : Bytes) :
    cryptDes D p s = cryptDes D (p.map (· &&& 0x7f)) s := by
  apply C03_des_window
  apply desKey_window
  intro i _
  have key : ∀ c : UInt8, c <<< (1 : UInt8) = (c &&& 0x7f) <<< (1 : UInt8) :=
    forall_uint8 _ (by decide +kernel)
  rcases Nat.lt_or_ge i p.length with hl | hl
  · simp only [List.getD, List.getElem?_map, List.getElem?_eq_getElem hl, Option.map_some, Option.getD_some]
    exact key _
  · simp [List.getD, List.getElem?_eq_none hl]

theorem hexLower_cons (x : UInt8) (xs : Bytes) : hexLower (x :: xs) = hexDigit (x.toNat / 16) :: hexDigit (x.toNat % 16) :: hexLower xs := rfl
theorem hexLower_inj : ∀ a b : Bytes, hexLower a = hexLower b → a = b
  | [], [], _ => rfl
  | [], _ :: _, h | _ :: _, [], h => by simp [hexLower] at h
  | x :: xs, y :: ys, h => by
    have hd : ∀ a b : Fin 16, hexDigit a.val = hexDigit b.val → a = b := by decide +kernel
    simp only [hexLower_cons, cons.injEq] at h
    have := x.toNat_lt; have := y.toNat_lt
    have b1 := Fin.mk.inj_iff.mp (hd ⟨x.toNat / 16, by omega⟩ ⟨y.toNat / 16, by omega⟩ h.1)
    have b2 := Fin.mk.inj_iff.mp (hd ⟨x.toNat % 16, by omega⟩ ⟨y.toNat % 16, by omega⟩ h.2.1)
    rw [UInt8.toNat_inj.mp (show x.toNat = y.toNat by omega), hexLower_inj xs ys h.2.2]

/-! ### reductions: two phrases that give the same hash collide in the method's core function

For each method below: if `crypt_m p s` and `crypt_m p' s'` both succeed with the same string `H`, then both runs used the SAME
salt and cost, and the core function (an arbitrary `D`, only its output length is assumed) returned the same digest for `p` and
`p'`.  So a false accept is exactly a collision of the underlying construction: the string layer (parsers, encoders, field
separators) loses nothing.  The proofs go through the round trip (C01): both phrases reproduce `H` from `H` itself, so the two
runs share one parse of one setting, and `H` minus its setting part is the text of either digest; the encoders are injective
(`permEncode_inj` over the schedules regenerated from the tree, and its kin). -/

/-- NT: equal hashes ⇒ equal MD4 digests (a false accept is an MD4 collision on the UCS-2 phrases) -/
theorem C03_nt_reduction (D : Digests) (p p' s s' H : Bytes) (h1 : cryptNt D p s = .ok H) (h2 : cryptNt D p' s' = .ok H) :
    D.nt p = D.nt p' := by
  obtain ⟨_, e1⟩ := cryptNt_ok.mp h1
  obtain ⟨_, e2⟩ := cryptNt_ok.mp h2
  exact hexLower_inj _ _ (append_cancel_left (e1.symm.trans e2))

theorem C03_md5crypt_reduction (D : Digests) (hD : D.WF) (p p' s s' H : Bytes)
    (h1 : cryptMd5 D p s = .ok H) (h2 : cryptMd5 D p' s' = .ok H) : ∃ salt, D.md5crypt p salt = D.md5crypt p' salt := by
  obtain ⟨salt, hs, e1⟩ := cryptMd5_ok.mp (C01.C01_md5crypt_fix D p s H h1)
  obtain ⟨salt', hs', e2⟩ := cryptMd5_ok.mp (C01.C01_md5crypt_fix D p' s' H h2)
  cases hs.symm.trans hs'
  exact ⟨salt, permEncode_inj _ 16 (by decide) (by decide) (by omega) _ _ (hD.md5 _ _) (hD.md5 _ _)
    (append_cancel_left (e1.symm.trans e2))⟩

/-- sha256crypt / sha512crypt: the same salt and rounds, and digests of length `L` that the kind's schedule determines -/
theorem sha_reduction {k : ShaKind} (hk : k.Good) (L : Nat) (hok : k.sched.all entryOk = true) (hcov : covers k.sched L = true)
    (hL : L ≤ 255) {f : Bytes → Bytes → Nat → Bytes} (hf : ∀ p s r, (f p s r).length = L) {p p' s s' H : Bytes}
    (h1 : k.crypt f p s = .ok H) (h2 : k.crypt f p' s' = .ok H) : ∃ salt rounds, f p salt rounds = f p' salt rounds := by
  obtain ⟨P, hP, e1⟩ := ShaKind.crypt_ok.mp (C01.sha_fix hk h1)
  obtain ⟨P', hP', e2⟩ := ShaKind.crypt_ok.mp (C01.sha_fix hk h2)
  cases hP.symm.trans hP'
  exact ⟨P.salt, P.rounds, permEncode_inj _ L hok hcov hL _ _ (hf _ _ _) (hf _ _ _) (append_cancel_left (e1.symm.trans e2))⟩

theorem C03_sha256crypt_reduction (D : Digests) (hD : D.WF) (p p' s s' H : Bytes)
    (h1 : cryptSha256 D p s = .ok H) (h2 : cryptSha256 D p' s' = .ok H) :
    ∃ salt rounds, D.sha256crypt p salt rounds = D.sha256crypt p' salt rounds :=
  sha_reduction sha256Kind_good 32 (by decide) (by decide) (by decide) hD.sha256 h1 h2

theorem C03_sha512crypt_reduction (D : Digests) (hD : D.WF) (p p' s s' H : Bytes)
    (h1 : cryptSha512 D p s = .ok H) (h2 : cryptSha512 D p' s' = .ok H) :
    ∃ salt rounds, D.sha512crypt p salt rounds = D.sha512crypt p' salt rounds :=
  sha_reduction sha512Kind_good 64 (by decide) (by decide) (by decide) hD.sha512 h1 h2

theorem C03_sha1crypt_reduction (D : Digests) (hD : D.WF) (p p' s s' H : Bytes)
    (h1 : cryptSha1 D p s = .ok H) (h2 : cryptSha1 D p' s' = .ok H) :
    ∃ salt iterations, D.sha1crypt p salt iterations = D.sha1crypt p' salt iterations := by
  obtain ⟨P, hP, e1⟩ := cryptSha1_ok.mp (C01.C01_sha1crypt_fix D p s H h1)
  obtain ⟨P', hP', e2⟩ := cryptSha1_ok.mp (C01.C01_sha1crypt_fix D p' s' H h2)
  cases hP.symm.trans hP'
  exact ⟨P.salt, P.iterations, sha1Encode_inj _ _ (hD.sha1 _ _ _) (hD.sha1 _ _ _) (append_cancel_left (e1.symm.trans e2))⟩

/-- sunmd5: the same hashed prefix (tag, rounds field, salt) and the same digest -/
theorem C03_sunmd5_reduction (D : Digests) (hD : D.WF) (p p' s s' H : Bytes)
    (h1 : cryptSunmd5 D p s = .ok H) (h2 : cryptSunmd5 D p' s' = .ok H) :
    ∃ pre n n', D.sunmd5 p pre n = D.sunmd5 p' pre n' := by
  obtain ⟨P, hP, e1⟩ := cryptSunmd5_ok.mp (C01.C01_sunmd5_fix D p s H h1)
  obtain ⟨P', hP', e2⟩ := cryptSunmd5_ok.mp (C01.C01_sunmd5_fix D p' s' H h2)
  cases hP.symm.trans hP'
  exact ⟨_, _, _, permEncode_inj _ 16 (by decide) (by decide) (by omega) _ _ (hD.sunmd5 _ _ _) (hD.sunmd5 _ _ _)
    (List.cons.inj (append_cancel_left (e1.symm.trans e2))).2⟩

/-- descrypt: same salt, colliding DES hash of the two keys -/
theorem C03_descrypt_reduction (D : Digests) (hD : D.WF) (p p' s s' H : Bytes)
    (h1 : cryptDes D p s = .ok H) (h2 : cryptDes D p' s' = .ok H) :
    ∃ salt, D.desHash (desKey p) salt 25 = D.desHash (desKey p') salt 25 := by
  obtain ⟨salt, hs, e1⟩ := cryptDes_ok.mp (C01.C01_descrypt_fix D p s H h1)
  obtain ⟨salt', hs', e2⟩ := cryptDes_ok.mp (C01.C01_descrypt_fix D p' s' H h2)
  cases hs.symm.trans hs'
  exact ⟨salt, desEncode_inj _ _ (by rw [hD.des, hD.des]) (append_cancel_left (e1.symm.trans e2))⟩

/-- bsdicrypt: same count and salt, colliding folded-key DES hash -/
theorem C03_bsdicrypt_reduction (D : Digests) (hD : D.WF) (p p' s s' H : Bytes)
    (h1 : cryptBsdi D p s = .ok H) (h2 : cryptBsdi D p' s' = .ok H) :
    ∃ salt count, D.bsdi p salt count = D.bsdi p' salt count := by
  obtain ⟨_, _, count, salt, hc, hs, e1⟩ := cryptBsdi_ok.mp (C01.C01_bsdicrypt_fix D p s H h1)
  obtain ⟨_, _, count', salt', hc', hs', e2⟩ := cryptBsdi_ok.mp (C01.C01_bsdicrypt_fix D p' s' H h2)
  cases hc.symm.trans hc'
  cases hs.symm.trans hs'
  exact ⟨salt, count, desEncode_inj _ _ (by rw [hD.bsdi, hD.bsdi]) (append_cancel_left (e1.symm.trans e2))⟩

/-- bcrypt: same subtype flags, cost and salt, colliding eksblowfish output -/
theorem C03_bcrypt_reduction (D : Digests) (hD : D.WF) (p p' s s' H : Bytes)
    (h1 : cryptBf D p s = .ok H) (h2 : cryptBf D p' s' = .ok H) :
    ∃ flags cost salt, D.bf flags cost salt p = D.bf flags cost salt p' := by
  obtain ⟨P, hP, _, e1⟩ := cryptBf_ok.mp (C01.C01_bcrypt_fix D p s H h1)
  obtain ⟨P', hP', _, e2⟩ := cryptBf_ok.mp (C01.C01_bcrypt_fix D p' s' H h2)
  cases hP.symm.trans hP'
  exact ⟨P.flags, P.cost, P.salt, bfEncode_inj _ _ (by rw [hD.bf, hD.bf]) (append_cancel_left (e1.symm.trans e2))⟩

theorem yescryptR_reduction (D : Digests) (hD : D.WF) {p p' s out : Bytes} {n : Nat}
    (h1 : yescryptR D p s n = some out) (h2 : yescryptR D p' s n = some out) :
    ∃ params salt h, D.yescrypt params salt p = some h ∧ D.yescrypt params salt p' = some h := by
  obtain ⟨P, h, hP, hd, e1, _⟩ := yescryptR_ok.mp h1
  obtain ⟨P', h', hP', hd', e2, _⟩ := yescryptR_ok.mp h2
  cases hP.symm.trans hP'
  cases encode64_inj _ _ (by rw [hD.yes _ _ _ _ hd, hD.yes _ _ _ _ hd']) (List.cons.inj (append_cancel_left (e1.symm.trans e2))).2
  exact ⟨P.params, P.salt, h, hd, hd'⟩

/-- yescrypt: same parameters and salt, colliding KDF output -/
theorem C03_yescrypt_reduction (D : Digests) (hD : D.WF) (p p' s s' H : Bytes)
    (h1 : cryptYescrypt D p s = .ok H) (h2 : cryptYescrypt D p' s' = .ok H) :
    ∃ params salt h, D.yescrypt params salt p = some h ∧ D.yescrypt params salt p' = some h :=
  yescryptR_reduction D hD (cryptYescryptCore_ok.mp (C01.C01_yescrypt_fix D p s H h1)) (cryptYescryptCore_ok.mp (C01.C01_yescrypt_fix D p' s' H h2))

/-- scrypt: same parameters and salt, colliding KDF output -/
theorem C03_scrypt_reduction (D : Digests) (hD : D.WF) (p p' s s' H : Bytes)
    (h1 : cryptScrypt D p s = .ok H) (h2 : cryptScrypt D p' s' = .ok H) :
    ∃ params salt h, D.yescrypt params salt p = some h ∧ D.yescrypt params salt p' = some h :=
  yescryptR_reduction D hD (cryptScrypt_ok.mp (C01.C01_scrypt_fix D p s H h1)).2.2 (cryptScrypt_ok.mp (C01.C01_scrypt_fix D p' s' H h2)).2.2

/-- gost-yescrypt: same parameters and salt for the inner KDF, the same keyed part of the setting for the outer construction,
    and the two phrases collide in the composition: a false accept is a collision of
    `phrase ↦ gostOuter phrase pre (yescrypt params salt phrase)` -/
theorem C03_gost_reduction (D : Digests) (hD : D.WF) (p p' s s' H : Bytes)
    (h1 : cryptGost D p s = .ok H) (h2 : cryptGost D p' s' = .ok H) :
    ∃ params salt pre y y', D.yescrypt params salt p = some y ∧ D.yescrypt params salt p' = some y' ∧
      D.gostOuter p pre y = D.gostOuter p' pre y' := by
  obtain ⟨Q, y, k, hQ, hy, _, hk, _, _, _, e1, _⟩ := cryptGost_struct (C01.C01_gost_fix D hD p s H h1)
  obtain ⟨Q', y', k', hQ', hy', _, hk', _, _, _, e2, _⟩ := cryptGost_struct (C01.C01_gost_fix D hD p' s' H h2)
  -- both are parses of the same string `H`, so the same parameters, salt and kept length `k`
  cases hQ.symm.trans hQ'
  cases hk.trans hk'.symm
  exact ⟨Q.params, Q.salt, H.take k, y, y', hy, hy',
    encode64_inj _ _ (by rw [hD.gost, hD.gost]) (List.cons.inj (append_cancel_left (e1.symm.trans e2))).2⟩

theorem big_first11 (D : Digests) (hD : D.WF) {p H : Bytes} {salt : Nat}
    (h : H = [a64 salt, a64 (salt / 64)] ++ desEncode (D.desHash (desKey p) salt 25) ∨ H = [a64 salt, a64 (salt / 64)] ++ bigSegments D 16 p salt) :
    (H.drop 2).take 11 = desEncode (D.desHash (desKey p) salt 25) := by
  rcases h with rfl | rfl
  · exact List.take_of_length_le (by simp [desEncode_length8 _ (hD.des _ _ _)])
  · exact bigSegments_take11 D hD 15 p salt

/-- bigcrypt: a false accept needs a DES collision on the first eight bytes under the same salt; and when both phrases went
    through the segment loop, one at every segment (`SegColl`) -/
theorem C03_bigcrypt_reduction (d : Bool) (D : Digests) (hD : D.WF) (p p' s s' H : Bytes)
    (h1 : cryptBig d D p s = .ok H) (h2 : cryptBig d D p' s' = .ok H) :
    ∃ salt, D.desHash (desKey p) salt 25 = D.desHash (desKey p') salt 25 ∧
      (H = [a64 salt, a64 (salt / 64)] ++ bigSegments D 16 p salt → H = [a64 salt, a64 (salt / 64)] ++ bigSegments D 16 p' salt →
        SegColl D 16 p p' salt) := by
  obtain ⟨a, ha, sa⟩ := cryptBig_shape h1
  obtain ⟨b, hb, sb⟩ := cryptBig_shape h2
  have hab : a = b := by
    rcases sa with sa | sa <;> rcases sb with sb | sb <;> rw [sa] at sb <;>
      simp only [List.cons_append, List.nil_append, List.cons.injEq] at sb <;> exact salt_chars_inj ha hb sb.1 sb.2.1
  subst hab
  refine ⟨a, desEncode_inj _ _ (by rw [hD.des, hD.des]) ((big_first11 D hD sa).symm.trans (big_first11 D hD sb)), fun e1 e2 => ?_⟩
  rw [e1] at e2
  exact bigSegments_coll D hD 16 p p' a (List.append_cancel_left e2)

theorem bigSegments_window (D : Digests) : ∀ (fuel : Nat) (p tail tail' : Bytes) (salt : Nat), p.length = 8 * fuel →
    bigSegments D fuel (p ++ tail) salt = bigSegments D fuel (p ++ tail') salt := by
  intro fuel
  induction fuel with
  | zero => intro p tail tail' salt _; rfl
  | succ f ih =>
    intro p tail tail' salt hl
    rw [bigSegments_succ, bigSegments_succ, desKey_append8 p tail tail' (by omega),
      List.drop_append_of_le_length (by omega), List.drop_append_of_le_length (by omega)]
    cases f with
    | zero => simp [bigSegments]
    | succ k =>
      -- not the last segment: eight more characters of `p` follow
      have hne : ∀ t : Bytes, (p.drop 8 ++ t).isEmpty = false := fun t =>
        List.isEmpty_eq_false_iff.mpr (List.ne_nil_of_length_pos (by simp; omega))
      rw [hne tail, hne tail']
      simp only [Bool.false_eq_true, if_false]
      rw [ih (p.drop 8) tail tail' _ (by simp; omega)]

/-- bytes beyond the 128th are insignificant for bigcrypt (the documented window) -/
theorem C03_big_beyond128 (d : Bool) (D : Digests) (p s tail tail' : Bytes) (h : p.length = 128) :
    cryptBig d D (p ++ tail) s = cryptBig d D (p ++ tail') s := by
  unfold cryptBig
  have l : ∀ t : Bytes, ((p ++ t).length > 8 ∧ s.length ≤ 13) ↔ s.length ≤ 13 := fun t => by simp; omega
  simp only [l]
  split
  · cases d
    · rfl
    · rw [if_pos rfl, if_pos rfl, ← List.take_append_drop 8 p, List.append_assoc, List.append_assoc]
      exact C03_des_beyond8 D (p.take 8) s _ _ (by simp; omega)
  · simp only [fun salt => bigSegments_window D 16 p tail tail' salt (by omega)]

/-- bytes beyond the 72nd are insignificant for bcrypt (the documented window): `BF_set_key` of the model that the correspondence
    check ties to crypt-bcrypt.c reads 18 words of 4 bytes cyclically from the phrase and its terminator -/
theorem C03_bcrypt_beyond72 (D : Digests) (hbf : D.bf = Bf.bcryptCore) (p s tail tail' : Bytes) (h : p.length = 72) :
    cryptBf D (p ++ tail) s = cryptBf D (p ++ tail') s := by
  unfold cryptBf
  rw [hbf]
  simp only [Bf.bcryptCore_window _ _ _ p tail tail' h]

end Xc.C03
