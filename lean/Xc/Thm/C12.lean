/-
  C12 — generated salts carry the supplied randomness; auto-entropy comes from the OS.

  Every salted writer's text is a literal head followed by an injective encoding of random bytes (`Lemmas/Writers`).  Two calls that
  return the same setting therefore wrote the same head and the same encoding: `salt_bytes_inj` for the writers that emit 3-byte
  groups through `enc24`, `bfEncode_inj` / `encode64_inj` for the two byte encoders, `a64_inj` for the DES pair.
-/
import Xc.Lemmas.Accept
import Xc.Lemmas.Inj
namespace Xc.C12
open Xc

/-- too few random bytes ⇒ EINVAL, never a weaker or salt-less setting (given a buffer that passes the
    size tests which some writers perform first) -/
theorem C12_short (count : Nat) (rb : Bytes) (n osize : Nat) (ho : 192 ≤ osize) :
    (n < 4 → gensaltSha512 count rb n osize = .err .EINVAL ∧ gensaltSha256 count rb n osize = .err .EINVAL) ∧
    (n < 2 → gensaltDes count rb n osize = .err .EINVAL) ∧
    (n < 3 → gensaltBsdi count rb n osize = .err .EINVAL) ∧
    (n < 8 → gensaltSunmd5 count rb n osize = .err .EINVAL) ∧
    (n < 16 → gensaltSha1 count rb n osize = .err .EINVAL ∧ gensaltBf 98 count rb n osize = .err .EINVAL) := by
  have sha : ∀ tag maxsalt defc minc maxc, maxc < 10000000000 → n < 4 →
      gensaltSha tag maxsalt defc minc maxc count rb n osize = .err .EINVAL := fun tag maxsalt defc minc maxc hm hn =>
    (writes_sha tag maxsalt defc minc maxc count rb n hm).einval (by omega) (by
      have := (shaHead_length tag defc (shaClamp_le defc minc maxc count) hm).2
      omega)
  exact ⟨fun h => ⟨sha _ _ _ _ _ (by decide) h, sha _ _ _ _ _ (by decide) h⟩,
    fun h => (writes_des count rb n).einval (by omega) (by omega),
    fun h => (writes_bsdi count rb n).einval (by omega) (by omega),
    fun h => (writes_sunmd5 count rb n).einval (by omega) (by omega),
    fun h => ⟨(writes_sha1 count rb n).einval (by omega) (by omega), (writes_bf 98 count rb n).einval (by omega) (by omega)⟩⟩

/-- with rbytes == NULL the writer receives exactly `nrbytes` (from the dispatch table, generated from
    hashes.conf) bytes drawn from the OS, and for every method that is enough -/
theorem C12_auto_enough : ∀ h ∈ Gen.table,
    (match h.gensalt with
     | .descrypt | .bigcrypt => 2 | .bsdicrypt => 3 | .md5crypt | .sha256crypt | .sha512crypt => 4 | .sunmd5 => 8
     | .sha1crypt | .bcrypt | .bcrypt_a | .bcrypt_y | .scrypt | .yescrypt | .gost_yescrypt => 16 | .nt | .bcrypt_x => 0) ≤ h.nrbytes := by
  decide

/-! ### groups of three bytes through `enc24` -/

/-- the base-64 packers are injective: different 3-byte groups give different 4-character groups -/
theorem enc24_inj (v w : Nat) (hv : v < 2 ^ 24) (hw : w < 2 ^ 24) (h : enc24 v = enc24 w) : v = w := by
  simp only [enc24, List.cons.injEq, and_true] at h
  have := a64_inj _ _ h.1; have := a64_inj _ _ h.2.1; have := a64_inj _ _ h.2.2.1; have := a64_inj _ _ h.2.2.2
  omega

theorem encGroups_inj {f g : Nat → Nat} {k k' : Nat} (hf : ∀ i, f i < 2 ^ 24) (hg : ∀ i, g i < 2 ^ 24)
    (h : encGroups f k = encGroups g k') : k = k' ∧ ∀ i, i < k → f i = g i := by
  obtain rfl : k = k' := by have := congrArg List.length h; rw [encGroups_length, encGroups_length] at this; omega
  exact ⟨rfl, fun i hi => enc24_inj _ _ (hf i) (hg i)
    (flatMap_eq_pieces _ _ (List.range k) (fun _ _ => by rw [enc24_length, enc24_length]) h i (List.mem_range.mpr hi))⟩

/-- **the salt characters determine the random bytes they were made from**: a salt loop reads the bytes from `s` on in groups of
    three, packs each group into 24 bits (`p` is `le24` or `be24`) and writes it with `enc24`; two loops that wrote the same text ran
    equally long and read the same bytes -/
theorem salt_bytes_inj {p : Bytes → Nat → Nat} (hlt : ∀ rb i, p rb i < 2 ^ 24)
    (hp : ∀ rb rb' i, p rb i = p rb' i → rbAt rb i = rbAt rb' i ∧ rbAt rb (i + 1) = rbAt rb' (i + 1) ∧ rbAt rb (i + 2) = rbAt rb' (i + 2))
    {rb rb' : Bytes} {idx : Nat → Nat} {s k k' : Nat} (hidx : ∀ i, idx i = s + 3 * i)
    (h : encGroups (fun i => p rb (idx i)) k = encGroups (fun i => p rb' (idx i)) k') :
    k = k' ∧ ∀ j, s ≤ j → j < s + 3 * k → rbAt rb j = rbAt rb' j := by
  obtain ⟨hk, hg⟩ := encGroups_inj (fun _ => hlt _ _) (fun _ => hlt _ _) h
  refine ⟨hk, fun j h1 h2 => ?_⟩
  obtain ⟨b0, b1, b2⟩ := hp _ _ _ (hg ((j - s) / 3) (by omega))
  rw [hidx] at b0 b1 b2
  obtain e | e | e : j = s + 3 * ((j - s) / 3) ∨ j = s + 3 * ((j - s) / 3) + 1 ∨ j = s + 3 * ((j - s) / 3) + 2 := by omega
  · exact e ▸ b0
  · exact e ▸ b1
  · exact e ▸ b2

/-! ### sha256crypt, sha512crypt, md5crypt: the standard salt size, and the bytes it determines -/

theorem shaSaltLoop_full8 (n o : Nat) (rb : Bytes) (w : Nat) (hn : 16 ≤ n) (ho : w + 12 < o) :
    shaSaltLoop 8 n o rb 9 w 0 = enc24 (le24 rb 0) ++ enc24 (le24 rb 3) := by
  refine (shaSaltLoop_run 8 n o rb w).trans ?_
  rw [show min ((o - w - 1) / 4) (min ((n - 1) / 3) ((8 + 3) / 4)) = 2 by omega]
  rfl

/-- with enough random bytes and room (the head has at most 21 characters, then the salt and the NUL), the salt loop of the shared
    writer runs its `(maxsalt + 3) / 4` times -/
theorem gensaltSha_full {tag : UInt8} {maxsalt defc minc maxc count : Nat} {rb : Bytes} {n o : Nat} {S : Bytes} {e : Nat}
    (hmax : maxc < 10000000000) (h : gensaltSha tag maxsalt defc minc maxc count rb n o = .ok S e)
    (hn : 3 * ((maxsalt + 3) / 4) < n) (ho : 4 * ((maxsalt + 3) / 4) + 22 ≤ o) :
    S = shaHead tag defc (shaClamp defc minc maxc count) ++ encGroups (fun i => le24 rb (3 * i)) ((maxsalt + 3) / 4) := by
  have hl := (shaHead_length tag defc (shaClamp_le defc minc maxc count) hmax).2
  obtain ⟨_, _, rfl⟩ := (writes_sha tag maxsalt defc minc maxc count rb n hmax).ok h
  generalize shaHead tag defc (shaClamp defc minc maxc count) = head, (maxsalt + 3) / 4 = m at *
  rw [show min ((o - head.length - 1) / 4) (min ((n - 1) / 3) m) = m by omega]

/-- **sha256crypt / sha512crypt, standard salt size**: with at least 16 random bytes and a buffer of the documented size the salt
    is the 16-character (96-bit) encoding of the first twelve random bytes -/
theorem gensaltSha_full16 (tag : UInt8) (defc minc maxc count : Nat) (rb : Bytes) (n o : Nat) (S : Bytes) (e : Nat)
    (hmax : maxc < 10000000000) (hdef : 1 ≤ defc) (hmin : 1 ≤ minc) (hmm : minc ≤ maxc)
    (h : gensaltSha tag 16 defc minc maxc count rb n o = .ok S e) (hn : 16 ≤ n) (ho : 192 ≤ o) :
    S = shaHead tag defc (shaClamp defc minc maxc count) ++
        (enc24 (le24 rb 0) ++ enc24 (le24 rb 3) ++ enc24 (le24 rb 6) ++ enc24 (le24 rb 9)) := by
  -- nested to the right the groups meet those of `encGroups` one by one; as they stand, the kernel first compares the second
  -- group with the third, and to tell `le24 rb 3` from `le24 rb 6` it unfolds the multiplications by 65536
  rw [gensaltSha_full hmax h (by omega) (by omega), List.append_assoc, List.append_assoc]
  rfl

/-- **injectivity**: the generated `$5$`/`$6$` salt determines the twelve random bytes it consumed (same count, same sizes) -/
theorem gensaltSha_injective (tag : UInt8) (defc minc maxc count : Nat) (rb rb' : Bytes) (n o n' o' : Nat) (S : Bytes) (e e' : Nat)
    (hmax : maxc < 10000000000) (hdef : 1 ≤ defc) (hmin : 1 ≤ minc) (hmm : minc ≤ maxc)
    (h : gensaltSha tag 16 defc minc maxc count rb n o = .ok S e) (h' : gensaltSha tag 16 defc minc maxc count rb' n' o' = .ok S e')
    (hn : 16 ≤ n) (ho : 192 ≤ o) (hn' : 16 ≤ n') (ho' : 192 ≤ o') : ∀ k, k < 12 → rbAt rb k = rbAt rb' k := by
  have a := gensaltSha_full hmax h (by omega) (by omega)
  have b := gensaltSha_full hmax h' (by omega) (by omega)
  exact fun k => (salt_bytes_inj le24_lt le24_bytes (fun _ => (Nat.zero_add _).symm) (List.append_cancel_left (a.symm.trans b))).2 k
    (Nat.zero_le k)

/-- md5crypt, standard salt size: with at least 16 random bytes and a buffer of the documented size the salt is the 8-character (48-bit)
    encoding of the first six random bytes -/
theorem gensaltMd5_full8 (count : Nat) (rb : Bytes) (n o : Nat) (S : Bytes) (e : Nat)
    (h : gensaltMd5 count rb n o = .ok S e) (hn : 16 ≤ n) (ho : 192 ≤ o) :
    S = [36, 49, 36] ++ (enc24 (le24 rb 0) ++ enc24 (le24 rb 3)) := by
  obtain ⟨_, _, rfl⟩ := (writes_md5 count rb n).ok h
  rw [show min ((o - 3 - 1) / 4) (min ((n - 1) / 3) 2) = 2 by omega]
  rfl

/-- **md5crypt: the eight salt characters determine the six random bytes consumed** -/
theorem gensaltMd5_injective (count : Nat) (rb rb' : Bytes) (n o n' o' : Nat) (S : Bytes) (e e' : Nat)
    (h : gensaltMd5 count rb n o = .ok S e) (h' : gensaltMd5 count rb' n' o' = .ok S e')
    (hn : 16 ≤ n) (ho : 192 ≤ o) (hn' : 16 ≤ n') (ho' : 192 ≤ o') : ∀ k, k < 6 → rbAt rb k = rbAt rb' k := by
  have a := gensaltMd5_full8 count rb n o S e h hn ho
  have b := gensaltMd5_full8 count rb' n' o' S e' h' hn' ho'
  exact fun k => (salt_bytes_inj le24_lt le24_bytes (idx := fun i => 3 * i) (k := 2) (k' := 2) (fun _ => (Nat.zero_add _).symm)
    (List.append_cancel_left (a.symm.trans b))).2 k (Nat.zero_le k)

/-! ### bcrypt, bsdicrypt, descrypt, sunmd5, sha1crypt, the yescrypt family -/

/-- bcrypt: the 22 salt characters determine the sixteen random bytes -/
theorem gensaltBf_injective (sub : UInt8) (count : Nat) (rb rb' : Bytes) (n o n' o' : Nat) (S : Bytes) (e e' : Nat)
    (h : gensaltBf sub count rb n o = .ok S e) (h' : gensaltBf sub count rb' n' o' = .ok S e') : padTo rb 16 = padTo rb' 16 :=
  bfEncode_inj _ _ (by rw [padTo_length, padTo_length])
    (List.append_cancel_left (Writes.same (writes_bf sub count rb n) (writes_bf sub count rb' n') h h'))

/-- bsdicrypt: the four salt characters determine the three random bytes -/
theorem gensaltBsdi_injective (count : Nat) (rb rb' : Bytes) (n o n' o' : Nat) (S : Bytes) (e e' : Nat)
    (h : gensaltBsdi count rb n o = .ok S e) (h' : gensaltBsdi count rb' n' o' = .ok S e') :
    rbAt rb 0 = rbAt rb' 0 ∧ rbAt rb 1 = rbAt rb' 1 ∧ rbAt rb 2 = rbAt rb' 2 :=
  le24_bytes rb rb' 0 (enc24_inj _ _ (le24_lt _ _) (le24_lt _ _)
    (List.append_cancel_left (Writes.same (writes_bsdi count rb n) (writes_bsdi count rb' n') h h')))

/-- **descrypt / bigcrypt: the two salt characters determine the twelve random bits consumed** (the low six bits of two bytes) -/
theorem gensaltDes_injective (count : Nat) (rb rb' : Bytes) (n o n' o' : Nat) (S : Bytes) (e e' : Nat)
    (h : gensaltDes count rb n o = .ok S e) (h' : gensaltDes count rb' n' o' = .ok S e') :
    rbAt rb 0 % 64 = rbAt rb' 0 % 64 ∧ rbAt rb 1 % 64 = rbAt rb' 1 % 64 := by
  have hT := Writes.same (writes_des count rb n) (writes_des count rb' n') h h'
  simp only [List.cons.injEq, and_true] at hT
  exact ⟨a64_inj _ _ hT.1, a64_inj _ _ hT.2⟩

/-- **sunmd5: the eight salt characters determine the six random bytes 2…7** (bytes 0 and 1 go into the printed round count) -/
theorem gensaltSunmd5_injective (count : Nat) (rb rb' : Bytes) (n o n' o' : Nat) (S : Bytes) (e e' : Nat)
    (h : gensaltSunmd5 count rb n o = .ok S e) (h' : gensaltSunmd5 count rb' n' o' = .ok S e') : ∀ k, 2 ≤ k → k < 8 → rbAt rb k = rbAt rb' k := by
  have hT := Writes.same (writes_sunmd5 count rb n) (writes_sunmd5 count rb' n') h h'
  -- the printed round counts may differ in length: take the closing `$` and the eight salt characters off from the right
  have h8 := (List.append_inj' hT rfl).1
  rw [List.append_assoc _ (enc24 (le24 rb 2)), List.append_assoc _ (enc24 (le24 rb' 2))] at h8
  exact (salt_bytes_inj le24_lt le24_bytes (k := 2) (k' := 2) (fun _ => rfl)
    (List.append_inj' h8 (by simp only [List.length_append, enc24_length])).2).2

/-- **sha1crypt: the salt characters determine the random bytes they were made from** (bytes 4, 5, … in groups of three; bytes 0…3 go into
    the printed iteration count): two calls that return the same setting consumed the same salt bytes -/
theorem gensaltSha1_injective (count count' : Nat) (rb rb' : Bytes) (n n' o o' : Nat) (S : Bytes) (e e' : Nat)
    (h : gensaltSha1 count rb n o = .ok S e) (h' : gensaltSha1 count' rb' n' o' = .ok S e') :
    sha1Rounds count rb = sha1Rounds count' rb' ∧
    ∃ salt : Bytes, (∃ P, parseSha1 S = .ok P ∧ P.salt = salt) ∧ ∀ j, 4 ≤ j → j < 4 + 3 * (salt.length / 4) → rbAt rb j = rbAt rb' j := by
  -- the method's own parser takes the text apart
  have hp := parseSha1_gen h
  have hp' := parseSha1_gen h'
  rw [hp] at hp'
  simp only [Except.ok.injEq, Sha1Parsed.mk.injEq] at hp'
  refine ⟨hp'.1, _, ⟨_, hp, rfl⟩, fun j h1 h2 => ?_⟩
  rw [encGroups_length, Nat.mul_div_cancel_left _ (by decide)] at h2
  exact (salt_bytes_inj be24_lt be24_bytes (fun _ => rfl) hp'.2).2 j h1 h2

/-- yescrypt, gost-yescrypt, scrypt: a generated setting determines the `min nrbytes 64 ≥ 16` random bytes it was made from -/
theorem C12_yescrypt_family_injective (count : Nat) (rb rb' : Bytes) (n osize osize' : Nat) (S : Bytes) (e e' : Nat) :
    (gensaltYescrypt count rb n osize = .ok S e → gensaltYescrypt count rb' n osize' = .ok S e' →
      16 ≤ min n 64 ∧ padTo rb (min n 64) = padTo rb' (min n 64)) ∧
    (gensaltGost count rb n osize = .ok S e → gensaltGost count rb' n osize' = .ok S e' →
      16 ≤ min n 64 ∧ padTo rb (min n 64) = padTo rb' (min n 64)) ∧
    (gensaltScrypt count rb n osize = .ok S e → gensaltScrypt count rb' n osize' = .ok S e' →
      16 ≤ min n 64 ∧ padTo rb (min n 64) = padTo rb' (min n 64)) := by
  have pad : ∀ {pfx : Bytes}, pfx ++ encode64 (padTo rb (min n 64)) = pfx ++ encode64 (padTo rb' (min n 64)) →
      padTo rb (min n 64) = padTo rb' (min n 64) :=
    fun hT => encode64_inj _ _ (by rw [padTo_length, padTo_length]) (List.append_cancel_left hT)
  exact ⟨
    fun h h' => ⟨((writes_yescrypt count rb n).ok h).1.2,
      pad (Writes.same (writes_yescrypt count rb n) (writes_yescrypt count rb' n) h h')⟩,
    fun h h' => ⟨((writes_gost count rb n).ok h).1.2,
      pad (Writes.same (writes_gost count rb n) (writes_gost count rb' n) h h')⟩,
    fun h h' => ⟨((writes_scrypt count rb n).ok h).1.2.2,
      pad (Writes.same (writes_scrypt count rb n) (writes_scrypt count rb' n) h h')⟩⟩

/-- … and `crypt` hands exactly those bytes to the KDF as the salt (yescrypt and gost-yescrypt decode the text back;
    `$7$` uses the text itself): see `C11_yescrypt_applied`, `C11_gost_applied`, `C11_scrypt_applied`. -/
theorem C12_yescrypt_salt_is_input (count : Nat) (rb : Bytes) (n osize : Nat) (S : Bytes) (e : Nat)
    (h : gensaltYescrypt count rb n osize = .ok S e) :
    parseYescrypt S Gen.CRYPT_OUTPUT_SIZE =
      some { params := yesParamsOf (dfl count 5), prefixlen := 7, saltstrlen := (encode64 (padTo rb (min n 64))).length, salt := padTo rb (min n 64) } := by
  obtain ⟨⟨hcount, _⟩, _, rfl⟩ := (writes_yescrypt count rb n).ok h
  have hc := yesCost_range hcount
  have hl := yesPfx_length hc.1 hc.2
  have := parseYescrypt_gen_ok (yParams_gen.1 ⟨dfl count 5, by omega⟩ hc.1) (padTo rb (min n 64)) (by rw [padTo_length]; omega)
    (n := Gen.CRYPT_OUTPUT_SIZE) (by rw [hl]; decide)
  rwa [hl, if_neg (by rw [yesPfx_cat1]; decide)] at this

end Xc.C12
