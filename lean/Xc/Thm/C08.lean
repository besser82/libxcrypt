/-
  C08 — re-entrant interfaces are thread-safe.

  Two parts.  (i) `Conc.interleaving_irrelevant`: if every step of a thread reads only immutable shared
  state and writes only that thread's own component, every schedule gives every thread the result of
  running alone.  (ii) The functions reachable from the re-entrant entry points HAVE that shape: none of
  them may write an object with static storage duration — decided over the call graph and write
  footprint regenerated from the clang AST of the tree (Gen.Statics).
-/
import Xc.Conc
import Xc.Gen.Statics
namespace Xc.C08

def reach (funcs : List (List Nat × Nat)) : Nat → List Nat → List Nat
  | 0, acc => acc
  | fuel + 1, acc =>
    let next := acc.foldl (fun a f => (funcs.getD f ([], 0)).1.foldl (fun a c => if a.contains c then a else c :: a) a) acc
    if next.length = acc.length then acc else reach funcs fuel next

def writesStatic (funcs : List (List Nat × Nat)) (f : Nat) : Bool := (funcs.getD f ([], 0)).2 != 0

/-- libc / run-time functions the re-entrant entry points may call: every one of them is MT-Safe per POSIX and the glibc manual
    (`strtoul`, `snprintf`: "MT-Safe locale"; `__errno_location`: thread-local; the allocator and the mapping calls are thread-safe;
    `__assert_fail` ends the process).  A function that keeps state in a static libc buffer (`l64a`, `strtok`, `getpass`, `rand`,
    `strerror`, ...) is not on this list. -/
def mtSafe : List String :=
  ["__assert_fail", "__errno_location", "abort", "arc4random_buf", "getentropy", "getrandom", "open", "read", "close",
   "explicit_bzero", "free", "malloc", "calloc", "realloc", "posix_memalign", "aligned_alloc", "mmap", "munmap", "madvise",
   "memcmp", "memcpy", "memmove", "memset", "memchr", "strlen", "strnlen", "strcmp", "strncmp", "strchr", "strrchr", "strspn", "strcspn",
   "strcpy", "strncpy", "strtoul", "snprintf"]

/-- The three facts about the closure of the re-entrant entry points, decided in one evaluation: the kernel keeps the
    weak head normal form of a subterm it has met, so the closure (most of the cost) is computed once for the three. -/
theorem C08_closure :
    let r := reach Gen.st_funcs Gen.st_funcs.length Gen.st_reentrant
    r.all (fun f => !writesStatic Gen.st_funcs f) = true ∧
    r.all (fun f => (Gen.st_funcs.getD f ([], 0)).1.all (fun c => r.contains c)) = true ∧
    r.all (fun f => (Gen.st_ext.getD f []).all (fun e => mtSafe.contains e)) = true := by
  decide +kernel

/-- no function reachable from crypt_r, crypt_rn, crypt_ra, crypt_gensalt_rn, crypt_gensalt_ra, crypt_checksalt,
    crypt_preferred_method (indirect calls through the method table resolved to every method) may write a static object -/
theorem C08_footprint :
    (reach Gen.st_funcs Gen.st_funcs.length Gen.st_reentrant).all (fun f => !writesStatic Gen.st_funcs f) = true :=
  C08_closure.1

/-- the closure really is closed (the fuel sufficed): every callee of a reached function is reached -/
theorem C08_closure_closed :
    let r := reach Gen.st_funcs Gen.st_funcs.length Gen.st_reentrant
    r.all (fun f => (Gen.st_funcs.getD f ([], 0)).1.all (fun c => r.contains c)) = true :=
  C08_closure.2.1

/-- every external function reachable from the re-entrant entry points is on the MT-safe list: no hidden shared state in libc -/
theorem C08_imports :
    (reach Gen.st_funcs Gen.st_funcs.length Gen.st_reentrant).all
      (fun f => (Gen.st_ext.getD f []).all (fun e => mtSafe.contains e)) = true :=
  C08_closure.2.2

/-- non-vacuity / sensitivity: the non-re-entrant entry points DO reach a writer of static storage -/
theorem C08_static_variants_write :
    Gen.st_nonreentrant.all (fun f => (reach Gen.st_funcs Gen.st_funcs.length [f]).any (writesStatic Gen.st_funcs)) = true := by
  decide +kernel

/-- the interleaving theorem, restated for API calls: thread `t` performs its calls `calls t` in order; each call
    maps the thread's own objects to new ones using only the (immutable) library data; then for every schedule
    thread `t` ends with exactly what it computes alone -/
theorem C08_interleaving {Lib Obj Tid : Type} [DecidableEq Tid] (lib : Lib) (call : Tid → Lib → Obj → Obj)
    (sched : List Tid) (init : Tid → Obj) (t : Tid) :
    Conc.runSched lib call init sched t = Conc.solo lib call t (sched.count t) (init t) :=
  Conc.interleaving_irrelevant lib call sched init t

end Xc.C08
