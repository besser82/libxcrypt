/-
  C13 — crypt_gensalt_rn honours output_size and reports errors without aborting.

  Statements are about `gensaltRn`, the model of lib/crypt.c:crypt_gensalt_rn
  composed with the sixteen writers (Xc/Gensalt.lean), for EVERY configuration
  `cfg` (dispatch table, default prefix), every prefix, count, random input,
  `nrbytes` and EVERY integer `output_size`.
-/
import Xc.Lemmas.Writers

namespace Xc.C13
open Xc

/-- `crypt_gensalt_rn` returns a string exactly when the size is at least 3, the prefix selects a table row and that row's writer
    succeeds; the string is the writer's -/
theorem gensaltRn_ok {cfg : Config} {pfx : Option Bytes} {count : Nat} {rb : Option Bytes} {nrb osize : Int} {os : Nat → Bytes} {S : Bytes} :
    (gensaltRn cfg pfx count rb nrb osize os).ret = some S ↔ 3 ≤ osize ∧ ∃ p h ext, resolvePrefix cfg pfx = some p ∧
      getHashFn cfg.table p = some h ∧
      gensaltMethod cfg.descryptOn h.gensalt count (rbArgs h rb nrb os).1 (rbArgs h rb nrb os).2 osize.toNat = .ok S ext := by
  unfold gensaltRn
  by_cases h3 : osize < 3
  · simp [h3, GRes.fail]; omega
  rw [if_neg h3]
  cases hp : resolvePrefix cfg pfx with
  | none => simp [GRes.fail]
  | some p =>
    cases hh : getHashFn cfg.table p with
    | none => simp [GRes.fail, hh]
    | some h =>
      cases hw : gensaltMethod cfg.descryptOn h.gensalt count (rbArgs h rb nrb os).1 (rbArgs h rb nrb os).2 osize.toNat <;>
        simp [GRes.fail, Int.not_lt.mp h3, hh, hw]

/-- the result of `crypt_gensalt_rn` is a failure (NULL, ERANGE or EINVAL, the failure token in the buffer) or what one writer call
    left; no writer aborts or writes beyond the buffer (`gensaltMethod_good`) -/
theorem gensaltRn_cases (cfg : Config) (pfx : Option Bytes) (count : Nat) (rb : Option Bytes) (nrb osize : Int) (os : Nat → Bytes) :
    (gensaltRn cfg pfx count rb nrb osize os = GRes.fail osize .ERANGE ∨ gensaltRn cfg pfx count rb nrb osize os = GRes.fail osize .EINVAL) ∨
    ∃ s ext, 3 ≤ osize ∧ s.length < osize.toNat ∧ ext ≤ osize.toNat ∧
      gensaltRn cfg pfx count rb nrb osize os = { ret := some s, errno := none, buf := some s, ext := max (failureTokenExtent osize) ext } := by
  unfold gensaltRn
  by_cases h3 : osize < 3
  · exact .inl (.inl (if_pos h3))
  rw [if_neg h3]
  cases resolvePrefix cfg pfx with
  | none => exact .inl (.inr rfl)
  | some p =>
    dsimp only
    cases getHashFn cfg.table p with
    | none => exact .inl (.inr rfl)
    | some h =>
      dsimp only
      have hg := gensaltMethod_good cfg.descryptOn h.gensalt count (rbArgs h rb nrb os).1 (rbArgs h rb nrb os).2 osize.toNat
      cases hw : gensaltMethod cfg.descryptOn h.gensalt count (rbArgs h rb nrb os).1 (rbArgs h rb nrb os).2 osize.toNat with
      | ok s ext => rw [hw] at hg; exact .inr ⟨s, ext, by omega, hg.1, hg.2, rfl⟩
      | err e => rw [hw] at hg; rcases hg with rfl | rfl <;> simp
      | abort => rw [hw] at hg; exact hg.elim

/-- **never terminates the process**: no `assert`/`strcpy_or_abort` is reachable -/
theorem C13_total (cfg : Config) (pfx : Option Bytes) (count : Nat) (rb : Option Bytes)
    (nrb osize : Int) (os : Nat → Bytes) :
    (gensaltRn cfg pfx count rb nrb osize os).aborted = false := by
  rcases gensaltRn_cases cfg pfx count rb nrb osize os with (h | h) | ⟨s, ext, _, _, _, h⟩ <;> rw [h] <;> rfl

/-- **success fits**: a returned setting is NUL-terminated strictly inside `output_size`,
    is what the buffer holds, and every write stayed below `output_size` -/
theorem C13_fit (cfg : Config) (pfx : Option Bytes) (count : Nat) (rb : Option Bytes)
    (nrb osize : Int) (os : Nat → Bytes) (S : Bytes)
    (hok : (gensaltRn cfg pfx count rb nrb osize os).ret = some S) :
    (S.length : Int) < osize ∧ (gensaltRn cfg pfx count rb nrb osize os).buf = some S ∧
    (gensaltRn cfg pfx count rb nrb osize os).errno = none := by
  rcases gensaltRn_cases cfg pfx count rb nrb osize os with (h | h) | ⟨s, ext, _, hl, _, h⟩ <;> rw [h] at hok ⊢
  · cases hok
  · cases hok
  · cases hok; exact ⟨by omega, rfl, rfl⟩

/-- **failure is reported**: NULL comes with ERANGE or EINVAL and the buffer holds exactly the
    failure token that fits (`"*0"`, `"*"`, `""`, or nothing for sizes ≤ 0) -/
theorem C13_err (cfg : Config) (pfx : Option Bytes) (count : Nat) (rb : Option Bytes)
    (nrb osize : Int) (os : Nat → Bytes)
    (hnull : (gensaltRn cfg pfx count rb nrb osize os).ret = none) :
    let r := gensaltRn cfg pfx count rb nrb osize os
    (r.errno = some .ERANGE ∨ r.errno = some .EINVAL) ∧ r.buf = failureToken (some []) osize := by
  rcases gensaltRn_cases cfg pfx count rb nrb osize os with (h | h) | ⟨s, ext, _, _, _, h⟩ <;> rw [h] at hnull ⊢
  · exact ⟨.inl rfl, rfl⟩
  · exact ⟨.inr rfl, rfl⟩
  · cases hnull

/-- the failure token as a function of the size, spelled out -/
theorem C13_token_shape (osize : Int) :
    failureToken (some []) osize =
      if osize ≥ 3 then some [42, 48] else if osize = 2 then some [42] else if osize = 1 then some [] else none := by
  unfold failureToken; simp [cat]

/-- **write confinement**: every index written is `< max output_size 0`; nothing is written for sizes ≤ 0 -/
theorem C13_writes (cfg : Config) (pfx : Option Bytes) (count : Nat) (rb : Option Bytes)
    (nrb osize : Int) (os : Nat → Bytes) :
    ((gensaltRn cfg pfx count rb nrb osize os).ext : Int) ≤ max osize 0 := by
  have htok : (failureTokenExtent osize : Int) ≤ max osize 0 := by
    unfold failureTokenExtent; repeat' split
    all_goals omega
  rcases gensaltRn_cases cfg pfx count rb nrb osize os with (h | h) | ⟨s, ext, _, _, _, h⟩ <;> rw [h]
  · exact htok
  · exact htok
  · show ((max (failureTokenExtent osize) ext : Nat) : Int) ≤ max osize 0
    omega

/-- the result is a function of its arguments only (no hidden state): trivially true of a Lean
    function; `_ra` and the static variant are `_rn` at 192 (`C10_entrypoints` is the returned string of this) -/
theorem C13_entrypoints (cfg : Config) (pfx : Option Bytes) (count : Nat) (rb : Option Bytes)
    (nrb : Int) (os : Nat → Bytes) :
    gensaltRa cfg pfx count rb nrb true os = gensaltRn cfg pfx count rb nrb Gen.CRYPT_GENSALT_OUTPUT_SIZE os ∧
    gensaltStatic cfg pfx count rb nrb os = gensaltRn cfg pfx count rb nrb Gen.CRYPT_GENSALT_OUTPUT_SIZE os := by
  simp [gensaltRa, gensaltStatic]

/-! Non-vacuity: concrete calls meeting the hypotheses (kernel-evaluated). -/
example : (gensaltRn Config.tree (some [36, 54, 36]) 0 (some (List.replicate 16 7)) 16 8).ret
            = some [36, 54, 36, 53, 81, 107, 47] := by decide
example : (gensaltRn Config.tree (some [36, 54, 36]) 0 (some (List.replicate 16 7)) 16 7).errno = some .ERANGE := by decide
example : (gensaltRn Config.tree (some [36, 54, 36]) 1000 (some (List.replicate 16 7)) 16 19).errno = some .ERANGE := by decide
example : ((gensaltRn Config.tree (some [36, 54, 36]) 1000 (some (List.replicate 16 7)) 16 20).ret.map List.length) = some 19 := by decide
example : (gensaltRn Config.tree none 0 none 0 2).buf = some [42] := by decide

/-- **success is monotone in `output_size`, and a smaller buffer receives a leading part** of what a larger one receives
    (the same string for every writer except the shared sha/md5 one, whose salt grows with the room) -/
theorem C13_monotone (cfg : Config) (pfx : Option Bytes) (count : Nat) (rb : Option Bytes) (nrb : Int) (osize osize' : Int)
    (os : Nat → Bytes) (S : Bytes) (h : (gensaltRn cfg pfx count rb nrb osize os).ret = some S) (ho : osize ≤ osize') :
    ∃ S', (gensaltRn cfg pfx count rb nrb osize' os).ret = some S' ∧ S <+: S' := by
  obtain ⟨h3, p, r, ext, hp, hr, hw⟩ := gensaltRn_ok.mp h
  obtain ⟨_, _, _, hW, _⟩ := writes_method cfg.descryptOn r.gensalt count (rbArgs r rb nrb os).1 (rbArgs r rb nrb os).2
  obtain ⟨S', e', hw', hpre⟩ := hW.mono hw (show osize.toNat ≤ osize'.toNat by omega)
  exact ⟨S', gensaltRn_ok.mpr ⟨by omega, p, r, e', hp, hr, hw'⟩, hpre⟩

/-- **CRYPT_GENSALT_OUTPUT_SIZE bytes always suffice for up to 64 random bytes**: with a 192-byte buffer no writer reports
    ERANGE, whatever the count and the random input -/
theorem C13_192_suffices (d : Bool) (m : Method) (count : Nat) (rb : Bytes) (n : Nat) (hn : n ≤ 64) :
    gensaltMethod d m count rb n Gen.CRYPT_GENSALT_OUTPUT_SIZE ≠ .err .ERANGE := by
  obtain ⟨_, _, _, hW, hr, _⟩ := writes_method d m count rb n
  exact hW.room (hr hn)

end Xc.C13
