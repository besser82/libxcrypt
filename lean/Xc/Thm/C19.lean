/-
  C19 — every --enable-hashes selection yields a coherent library.
  The dispatch table of a selection is the table of the full selection with the rows of the disabled methods filtered out
  (`mkTable_eq_filter`), and each per-configuration fact (`cfgOk`, C19Core.lean) is either inherited by such a sub-table or is a
  fact about the sixteen rows of the tree's hashes.conf (`ConfOk`, decided once); so they hold for every selection.
-/
import Xc.Thm.C19Core
import Xc.Thm.C01
import Xc.Thm.C10
import Xc.Lemmas.Config
namespace Xc.C19

/-- the Lean model of gen-crypt-hashes-h reproduces the table and default the tree was actually built with -/
theorem mkTable_ok :
    mkTable Gen.hashesConf (enabledOfList Gen.enabled) = Gen.table ∧
    mkDefault Gen.hashesConf (enabledOfList Gen.enabled) = Gen.defaultPrefix := by decide

/-! ### sub-tables -/

theorem find?_filter_of_find? {α} {P q : α → Bool} {l : List α} {r : α} (h : l.find? P = some r) (hq : q r = true) :
    (l.filter q).find? P = some r := by
  rw [List.find?_filter]
  rw [List.find?_eq_some_iff_append] at h ⊢
  obtain ⟨hP, as, bs, rfl, has⟩ := h
  exact ⟨by simp [hP, hq], as, bs, rfl, fun a ha => by simp [has a ha]⟩

/-- "the `f`-rows come last" survives `filter` -/
theorem dropWhile_not_filter {α} {f q : α → Bool} : ∀ {l : List α}, (∀ a ∈ l.dropWhile (fun a => !f a), f a = true) →
    ∀ a ∈ (l.filter q).dropWhile (fun a => !f a), f a = true
  | [], _ => by simp
  | y :: ys, h => by
    cases hy : f y
    · rw [List.dropWhile_cons_of_pos (by simp [hy])] at h
      rw [List.filter_cons]
      split
      · rw [List.dropWhile_cons_of_pos (by simp [hy])]
        exact dropWhile_not_filter h
      · exact dropWhile_not_filter h
    · rw [List.dropWhile_cons_of_neg (by simp [hy])] at h
      exact fun a ha => h a (List.filter_sublist.subset ((List.dropWhile_suffix _).subset ha))

theorem prefixFree_filter {tbl : List HashEntry} (q : HashEntry → Bool) (h : C18.prefixFree tbl = true) :
    C18.prefixFree (tbl.filter q) = true := by
  simp only [C18.prefixFree, Bool.and_eq_true, List.all_eq_true] at h ⊢
  have sub {a} (ha : a ∈ tbl.filter q) : a ∈ tbl := List.filter_sublist.subset ha
  exact ⟨⟨fun a ha => h.1.1 a (sub ha), fun a ha b hb => h.1.2 a (sub ha) b (sub hb)⟩, dropWhile_not_filter h.2⟩

theorem tableOk_filter {tbl : List HashEntry} (q : HashEntry → Bool) (h : C18.TableOk tbl = true) :
    C18.TableOk (tbl.filter q) = true := by
  simp only [C18.TableOk, Bool.and_eq_true, List.all_eq_true] at h ⊢
  have sub {a} (ha : a ∈ tbl.filter q) : a ∈ tbl := List.filter_sublist.subset ha
  exact ⟨⟨prefixFree_filter q h.1.1, fun a ha => h.1.2 a (sub ha)⟩, fun a ha => h.2 a (sub ha)⟩

theorem eq_of_pfx_eq {tbl : List HashEntry} (h : C18.prefixFree tbl = true) {h1 h2 : HashEntry} (m1 : h1 ∈ tbl) (m2 : h2 ∈ tbl)
    (hne : h1.pfx ≠ []) (heq : h2.pfx = h1.pfx) : h1 = h2 := by
  simp only [C18.prefixFree, Bool.and_eq_true, List.all_eq_true] at h
  simpa [heq, hne, List.isPrefixOf_iff_prefix.2 (List.prefix_refl h1.pfx)] using h.1.2 h1 m1 h2 m2

/-! ### every selection -/

/-- what the argument needs of a hashes.conf, all of it about the table of the full selection -/
structure ConfOk (conf : List ConfEntry) : Prop where
  tableOk : C18.TableOk (mkTable conf fun _ => true) = true
  dflt : ∀ e ∈ conf, e.dflt = true → e.strong = true ∧ e.pfx ≠ [] ∧ checkBadSaltChars e.pfx = false ∧
    getHashFn (mkTable conf fun _ => true) e.pfx = some e.row

instance (conf : List ConfEntry) : Decidable (ConfOk conf) :=
  decidable_of_iff (_ ∧ _) ⟨fun ⟨h1, h2⟩ => ⟨h1, h2⟩, fun ⟨h1, h2⟩ => ⟨h1, h2⟩⟩

theorem confOk_tree : ConfOk Gen.hashesConf := by decide

section
variable {conf : List ConfEntry} (hc : ConfOk conf) (en : Method → Bool)
include hc

theorem tableOk_mkTable : C18.TableOk (mkTable conf en) = true := by
  rw [mkTable_eq_filter]
  exact tableOk_filter _ hc.tableOk

theorem name_eq_of_pfx_eq {e e' : ConfEntry} (he : e ∈ conf) (he' : e' ∈ conf) (hne : e.pfx ≠ []) (heq : e'.pfx = e.pfx) :
    e'.name = e.name := by
  have full {x} (hx : x ∈ conf) : x.row ∈ mkTable conf fun _ => true := mem_mkTable.2 ⟨x, hx, rfl, rfl⟩
  exact congrArg HashEntry.crypt (eq_of_pfx_eq (C01.tableOk_prefixFree hc.tableOk) (full he) (full he') hne heq).symm

theorem mkDefault_dispatch {p : Bytes} (h : mkDefault conf en = some p) :
    ∃ e ∈ conf, e.dflt = true ∧ e.strong = true ∧ e.pfx = p ∧
      getHashFn (mkTable conf en) p = some e.row ∧ checksalt (mkTable conf en) (some p) = .ok := by
  obtain ⟨e, he, hd, hen, rfl⟩ := mkDefault_some h
  obtain ⟨hs, hne, hbad, hg⟩ := hc.dflt e he hd
  have hg : getHashFn (mkTable conf en) e.pfx = some e.row := by
    rw [mkTable_eq_filter]
    exact find?_filter_of_find? hg hen
  exact ⟨e, he, hd, hs, rfl, hg, (C18.C18_ok_legacy _ _ hne hbad _ hg).trans (if_pos hs)⟩

end

/-- `cfgOk n` speaks of `n` through `subsetOf n` only, and holds of every selection -/
theorem cfgOk_true (n : Nat) : cfgOk n = true := by
  have hc := confOk_tree
  unfold cfgOk
  generalize subsetOf n = en
  have hT := tableOk_mkTable hc en
  simp only [Bool.and_eq_true]
  refine ⟨⟨⟨⟨C01.tableOk_prefixFree hT, hT⟩, List.all_eq_true.2 fun e he => ?_⟩, beq_iff_eq.2 (length_mkTable _ _)⟩, ?_⟩
  · split
    next hen => exact List.any_eq_true.2 ⟨e.row, mem_mkTable.2 ⟨e, he, hen, rfl⟩, by simp [ConfEntry.row]⟩
    next hen =>
      refine List.all_eq_true.2 fun h hh => ?_
      obtain ⟨e', he', hen', rfl⟩ := mem_mkTable.1 hh
      have hne : e'.name ≠ e.name := fun heq => hen (heq ▸ hen')
      have hpfx : e.pfx = [] ∨ e'.pfx ≠ e.pfx :=
        Decidable.or_iff_not_imp_left.2 fun hemp heq => hne (name_eq_of_pfx_eq hc he he' hemp heq)
      simpa [ConfEntry.row, hne] using hpfx
  · split
    next hd =>
      refine List.all_eq_true.2 fun e he => ?_
      cases hdf : e.dflt
      · rfl
      · simp [mkDefault_none hd e he hdf]
    next p hd =>
      obtain ⟨e, he, hdf, hs, rfl, hg, hok⟩ := mkDefault_dispatch hc en hd
      rw [hg, hok]
      simpa [ConfEntry.row, hs] using ⟨e, he, hdf, rfl⟩

/-- **all 65 536 configurations**: the table is prefix-free with empty prefixes last, contains exactly the
    enabled methods under their own prefixes and entry points, and the default prefix is the first enabled
    default-capable method, strong, dispatched to itself and OK for crypt_checksalt -/
theorem C19_all_configs (n : Nat) (h : n < 65536) : cfgOk n = true := cfgOk_true n

/-- every configuration's table satisfies what the round-trip theorem C01_roundtrip asks of it -/
theorem C19_tableOk (n : Nat) (h : n < 65536) : C18.TableOk (mkTable Gen.hashesConf (subsetOf n)) = true :=
  tableOk_mkTable confOk_tree _

def bit (en : Method → Bool) (m : Method) : Nat := if en m then 1 else 0

def encode (en : Method → Bool) : Nat := bit en .bcrypt * 1 + bit en .bcrypt_a * 2 + bit en .bcrypt_x * 4 + bit en .bcrypt_y * 8 + bit en .bigcrypt * 16 + bit en .bsdicrypt * 32 + bit en .descrypt * 64 + bit en .gost_yescrypt * 128 + bit en .md5crypt * 256 + bit en .nt * 512 + bit en .scrypt * 1024 + bit en .sha1crypt * 2048 + bit en .sha256crypt * 4096 + bit en .sha512crypt * 8192 + bit en .sunmd5 * 16384 + bit en .yescrypt * 32768

def ofBits : List Bool → Nat
  | [] => 0
  | b :: bs => b.toNat + 2 * ofBits bs

theorem ofBits_lt : ∀ bs, ofBits bs < 2 ^ bs.length
  | [] => by decide
  | b :: bs => by
    have := ofBits_lt bs
    have := b.toNat_le
    rw [ofBits, List.length_cons, Nat.pow_succ]
    omega

theorem testBit_ofBits : ∀ (bs : List Bool) (i : Nat), (ofBits bs).testBit i = bs.getD i false
  | [], i => by simp [ofBits]
  | b :: bs, 0 => by cases b <;> simp [ofBits] <;> omega
  | b :: bs, i + 1 => by
    have : (b.toNat + 2 * ofBits bs) / 2 = ofBits bs := by have := b.toNat_le; omega
    rw [Nat.testBit_add_one, ofBits, this, testBit_ofBits bs i]
    rfl

/-- the digits of `encode en` are the values of `en` at the methods in the order of `Method.nameRank` -/
theorem encode_eq (en : Method → Bool) :
    encode en = ofBits ([.bcrypt, .bcrypt_a, .bcrypt_x, .bcrypt_y, .bigcrypt, .bsdicrypt, .descrypt, .gost_yescrypt, .md5crypt, .nt,
      .scrypt, .sha1crypt, .sha256crypt, .sha512crypt, .sunmd5, .yescrypt].map en) := by
  have hb (m : Method) : bit en m = (en m).toNat := by unfold bit; cases en m <;> rfl
  simp only [List.map, ofBits, encode, hb]
  omega

/-- every subset of the sixteen methods is one of the 65 536 numbered configurations -/
theorem subsetOf_encode (en : Method → Bool) : encode en < 65536 ∧ ∀ m, subsetOf (encode en) m = en m := by
  rw [encode_eq]
  refine ⟨Nat.lt_of_lt_of_eq (ofBits_lt _) (by simp), fun m => ?_⟩
  rw [subsetOf_eq_testBit, testBit_ofBits]
  cases m <;> rfl

/-- what C01 and C10 ask of a configuration, for every selection.  Stated about `Config.table { table := …, … }`, the form the
    three theorems below meet: given `tableOk_mkTable` itself, `exact` has to unify `Config.table ?cfg` with `mkTable …` before it
    knows `?cfg`, and unfolds `TableOk` on both sides while it tries (seconds each) -/
theorem tableOk_every (en : Method → Bool) (dflt : Option Bytes) (d : Bool) :
    C18.TableOk (Config.table { table := mkTable Gen.hashesConf en, dflt := dflt, descryptOn := d }) = true :=
  tableOk_mkTable confOk_tree en

/-- **C01 in every configuration**: whatever subset of the sixteen methods is enabled (and whatever the build's default and
    descrypt switch), every successful result of every enabled method is accepted again,
    dispatched to the same row, and reproduces itself -/
theorem C19_roundtrip_every_config (en : Method → Bool) (dflt : Option Bytes) (d : Bool) (D : Digests) (hD : D.WF) (p s H : Bytes)
    (h : cryptPure { table := mkTable Gen.hashesConf en, dflt := dflt, descryptOn := d } D p s = .ok H) :
    cryptPure { table := mkTable Gen.hashesConf en, dflt := dflt, descryptOn := d } D p H = .ok H := by
  exact C01.C01_roundtrip _ (tableOk_every en dflt d) D hD p s H h

/-- **C10 in every configuration**: whatever subset of the methods is enabled, a setting returned by `crypt_gensalt_rn` is
    passwd-safe, selects the same table row as the prefix it was generated for, and `crypt` of any phrase (shorter than 512 bytes)
    with it succeeds with a hash that begins with the generated setting (bigcrypt without descrypt: with its two salt characters) -/
theorem C19_gensalt_accepted_every_config (en : Method → Bool) (dflt : Option Bytes) (d : Bool) (D : Digests) (hD : D.WF)
    (hst : ∀ f, D.bfSelfTest f = true) (pfx : Option Bytes) (count : Nat) (rb : Option Bytes) (nrb osize : Int) (os : Nat → Bytes) (S : Bytes)
    (h : (gensaltRn { table := mkTable Gen.hashesConf en, dflt := dflt, descryptOn := d } pfx count rb nrb osize os).ret = some S)
    (p : Bytes) (hp : p.length < Gen.CRYPT_MAX_PASSPHRASE_SIZE) (hk : C10.KdfOk D p) :
    passwdSafe S = true ∧ ∃ H, cryptPure { table := mkTable Gen.hashesConf en, dflt := dflt, descryptOn := d } D p S = .ok H ∧ S.take 2 <+: H := by
  obtain ⟨hs, r, H, _, _, hH, hpre⟩ := C10.C10_api _ (tableOk_every en dflt d) (C10.mkTable_same _ _) D hD hst pfx count rb nrb osize os S h p hp hk
  refine ⟨hs, H, hH, ?_⟩
  split at hpre
  · exact hpre
  · exact (List.take_prefix 2 S).trans hpre

/-- **C01, second clause, in every configuration**: in each of the 65 536 tables a successful result is `S ++ dig`, and any text of
    the same length over `./0-9A-Za-z` in place of `dig` gives the same result -/
theorem C19_hashpart_every_config (en : Method → Bool) (dflt : Option Bytes) (d : Bool) (D : Digests) (hD : D.WF) (p s H : Bytes)
    (h : cryptPure { table := mkTable Gen.hashesConf en, dflt := dflt, descryptOn := d } D p s = .ok H) :
    ∃ S dig, H = S ++ dig ∧ ∀ t, t.length = dig.length → HashText t →
      cryptPure { table := mkTable Gen.hashesConf en, dflt := dflt, descryptOn := d } D p (S ++ t) = .ok H := by
  exact C01.C01_hashpart_api _ (tableOk_every en dflt d) D hD p s H h

end Xc.C19
