/-
  C16 — digest/MAC/KDF primitives are the standard functions for all lengths, chunkings.

  `MD.hash A m` is the published one-shot definition (append 0x80, zero padding, the bit length,
  fold the compression function over the blocks).  The C code is modelled by the streaming
  context (`init` / `update` / `final`); the theorems below say that the streaming computation
  equals the one-shot definition for EVERY message and EVERY way of cutting it into update calls,
  for MD4, MD5, SHA-1, SHA-256, SHA-512, and that the HMACs built from the streaming calls are
  RFC 2104 HMAC.  The compression functions and constants are tied to the code by generated
  tables and the correspondence (full digests, lengths 0..1100, all split points).
-/
import Xc.Lemmas.MD
import Xc.Prim.Cores
import Xc.Prim.Yescrypt
import Xc.Prim.Streebog
import Xc.Lemmas.Pbkdf2

namespace Xc.C16
open MD

theorem C16_md5_streaming (chunks : List Bytes) :
    final Md5.alg (chunks.foldl (update Md5.alg) (init Md5.alg)) = Md5.hash chunks.flatten :=
  streaming_eq_hash Md5.alg (by decide) chunks

theorem C16_md4_streaming (chunks : List Bytes) :
    final Md4.alg (chunks.foldl (update Md4.alg) (init Md4.alg)) = Md4.hash chunks.flatten :=
  streaming_eq_hash Md4.alg (by decide) chunks

theorem C16_sha1_streaming (chunks : List Bytes) :
    final Sha1.alg (chunks.foldl (update Sha1.alg) (init Sha1.alg)) = Sha1.hash chunks.flatten :=
  streaming_eq_hash Sha1.alg (by decide) chunks

theorem C16_sha256_streaming (chunks : List Bytes) :
    final Sha256.alg (chunks.foldl (update Sha256.alg) (init Sha256.alg)) = Sha256.hash chunks.flatten :=
  streaming_eq_hash Sha256.alg (by decide) chunks

theorem C16_sha512_streaming (chunks : List Bytes) :
    final Sha512.alg (chunks.foldl (update Sha512.alg) (init Sha512.alg)) = Sha512.hash chunks.flatten :=
  streaming_eq_hash Sha512.alg (by decide) chunks

/-- the split of the input across update calls is irrelevant (any algorithm with a non-empty block) -/
theorem C16_chunking {σ} (A : Alg σ) (hb : 0 < A.block) (c1 c2 : List Bytes) (h : c1.flatten = c2.flatten) :
    final A (c1.foldl (update A) (init A)) = final A (c2.foldl (update A) (init A)) := by
  rw [streaming_eq_hash A hb, streaming_eq_hash A hb, h]

/-- the padded message is a whole number of blocks: "one or two final blocks" -/
theorem C16_padding_blocks {σ} (A : Alg σ) (hb : 0 < A.block) (hl : A.lenBytes < A.block) (m : Bytes) :
    (m ++ padding A m.length).length % A.block = 0 := by
  have h1 := Nat.mod_lt (m.length + 1 + A.lenBytes) hb
  have h2 := Nat.div_add_mod (m.length + 1 + A.lenBytes) A.block
  simp only [padding, List.length_append, List.length_cons, List.length_replicate, lenField_length, zeroPad]
  -- with n = |m| + 1 + lenBytes and b = block: (n + (b - n % b) % b) % b = (n + (b - n % b)) % b, and n + (b - n % b) = b * (n / b + 1)
  rw [show ∀ z, m.length + (z + 1 + A.lenBytes) = m.length + 1 + A.lenBytes + z by omega, Nat.add_mod, Nat.mod_mod, ← Nat.add_mod,
    show m.length + 1 + A.lenBytes + (A.block - (m.length + 1 + A.lenBytes) % A.block) =
      A.block * ((m.length + 1 + A.lenBytes) / A.block + 1) by rw [Nat.mul_add]; omega]
  exact Nat.mul_mod_right _ _

/-- HMAC as computed with streaming calls (alg-hmac-sha1.c, HMAC_SHA256_*, the shape shared by
    gost_hmac256) is RFC 2104: H((K' ⊕ opad) ‖ H((K' ⊕ ipad) ‖ text)), K' = H(K) for long keys -/
theorem C16_hmac {σ} (A : Alg σ) (hb : 0 < A.block) (key text : Bytes) :
    Cores.hmacGen A key text =
      (let k' := if key.length > A.block then hash A key else key
       let pad (p : UInt8) := (List.range A.block).map fun i => p ^^^ k'.getD i 0
       hash A (pad 0x5c ++ hash A (pad 0x36 ++ text))) := by
  simp only [Cores.hmacGen, Cores.digestOf]
  have e1 := streaming_eq_hash A hb
  rw [e1, e1]
  simp

theorem C16_hmac_sha1 (key text : Bytes) :
    Cores.hmacSha1 key text =
      (let k' := if key.length > 64 then Sha1.hash key else key
       let pad (p : UInt8) := (List.range 64).map fun i => p ^^^ k'.getD i 0
       Sha1.hash (pad 0x5c ++ Sha1.hash (pad 0x36 ++ text))) :=
  C16_hmac Sha1.alg (by decide) key text

theorem C16_hmac_sha256 (key text : Bytes) :
    Yes.hmacSha256 key text =
      (let k' := if key.length > 64 then Sha256.hash key else key
       let pad (p : UInt8) := (List.range 64).map fun i => p ^^^ k'.getD i 0
       Sha256.hash (pad 0x5c ++ Sha256.hash (pad 0x36 ++ text))) :=
  C16_hmac Sha256.alg (by decide) key text

/-! ### PBKDF2-HMAC-SHA256: the code's fast path is the standard function -/

/-- one output block of the `c == 1` fast path of `PBKDF2_SHA256` (contexts padded once with `SHA256_Pad_Almost`, two compressions per
    block, only the counter bytes rewritten) is RFC 2104 HMAC-SHA256 of `salt ‖ INT(i+1)`: every password, every salt whose last
    partial block has at most 51 bytes (the guard of the code), every block index -/
theorem C16_pbkdf2_fast_block (pw salt : Bytes) (i : Nat) (h : salt.length % 64 ≤ 51) :
    Yes.fastBlock Sha256.alg 32 pw salt i = Yes.hmacSha256 pw (salt ++ toBe32 (i + 1).toUInt32) :=
  Yes.fastBlock_sha256 pw salt i h

/-- `PBKDF2_SHA256` as written - fast path where its guard holds, generic loop otherwise - is RFC 8018 PBKDF2 with HMAC-SHA256,
    for every password, salt, iteration count and output length -/
theorem C16_pbkdf2_fast_path (pw salt : Bytes) (c dkLen : Nat) :
    Yes.pbkdf2Impl pw salt c dkLen = Yes.pbkdf2Sha256 pw salt c dkLen :=
  Yes.pbkdf2Impl_eq pw salt c dkLen

/-- the fast path is really taken (guard true, no fall-back) for yescrypt's own calls: 32·k output bytes, c = 1, short salts -/
example : let salt : Bytes := List.replicate 16 7
    (1 = 1 ∧ 128 % 32 = 0 ∧ salt.length % 64 ≤ 51) ∧ ¬ ((64 + salt.length + 4) % 64 < (64 + salt.length) % 64 ∨ 56 ≤ (64 + salt.length + 4) % 64) := by decide

/-! ### Streebog: streaming = one-shot -/
section streebog
open Xc.Streebog

theorem sb_absorb_eq (iv : St) : ∀ (k : Nat) (s : St) (pre rest : Bytes), pre.length = k * 64 → rest.length < 64 →
    Streebog.absorb s (pre ++ rest) = (MD.absorb (alg iv) s pre, rest) := by
  intro k
  induction k with
  | zero =>
    intro s pre rest hp hr
    have : pre = [] := by simpa using hp
    subst this
    rw [Streebog.absorb, dif_pos (by simpa using hr), MD.absorb_nil]
    rfl
  | succ k ih =>
    intro s pre rest hp hr
    have hge : 64 ≤ pre.length := by omega
    rw [Streebog.absorb, dif_neg (by simp; omega), List.take_append_of_le_length hge, List.drop_append_of_le_length hge,
      ih _ _ _ (by simp only [List.length_drop]; omega) hr, MD.absorb_step (alg iv) s pre (by simp [alg]) hge]
    rfl

theorem sb_ctx (iv : St) (chunks : List Bytes) :
    ((chunks.foldl (MD.update (alg iv)) (MD.init (alg iv))).st, (chunks.foldl (MD.update (alg iv)) (MD.init (alg iv))).buf)
      = Streebog.absorb iv chunks.flatten := by
  have hb : 0 < (alg iv).block := by simp [alg]
  obtain ⟨_, hs, pre, k, hm, hpre, hst⟩ := MD.foldl_rep (alg iv) hb chunks (MD.init (alg iv)) [] (MD.init_rep (alg iv) hb)
  rw [List.nil_append] at hm
  rw [hm, sb_absorb_eq iv k iv pre _ hpre hs, hst]
  rfl

/-- **Streebog-256 / Streebog-512 through Init/Update/Final equal the one-shot function for every chunking** -/
theorem C16_streebog256_streaming (chunks : List Bytes) : streamed256 chunks = hash256 chunks.flatten := by
  have := sb_ctx init256 chunks
  simp only [streamed256, hash256]
  rw [← this]

theorem C16_streebog512_streaming (chunks : List Bytes) : streamed512 chunks = hash512 chunks.flatten := by
  have := sb_ctx init512 chunks
  simp only [streamed512, hash512]
  rw [← this]

end streebog

end Xc.C16
