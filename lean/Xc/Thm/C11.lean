/-
  C11 — crypt_gensalt encodes the documented cost for every count.
-/
import Xc.Lemmas.Accept
namespace Xc.C11
open Xc

/-- fixed-cost methods accept only count 0 -/
theorem C11_fixed (count : Nat) (rb : Bytes) (n osize : Nat) (h : count ≠ 0) :
    gensaltMd5 count rb n osize = .err .EINVAL ∧
    (3 + 1 ≤ osize → gensaltNt count osize = .err .EINVAL) ∧
    (3 ≤ osize → gensaltDes count rb n osize = .err .EINVAL) :=
  -- `gensalt_md5crypt_rn` looks at the count before the size, which `writes_md5` does not record: the first `if` of `gensaltMd5`
  ⟨if_pos h, (writes_nt count).einval h, (writes_des count rb n).einval fun hV => h hV.2⟩

/-- `$2x$` never generates a setting -/
theorem C11_bcrypt_x (d : Bool) (count : Nat) (rb : Bytes) (n osize : Nat) :
    gensaltMethod d .bcrypt_x count rb n osize = .err .EINVAL := rfl

/-- logarithmic-cost methods reject out-of-range counts with EINVAL (whenever the buffer is large enough
    for the size test that precedes it in scrypt/yescrypt) -/
theorem C11_log_reject_bcrypt (sub : UInt8) (count : Nat) (rb : Bytes) (n osize : Nat)
    (h : (count ≠ 0 ∧ count < 4) ∨ 31 < count) : gensaltBf sub count rb n osize = .err .EINVAL := by
  have hc : dfl count 5 < 4 ∨ dfl count 5 > 31 := by unfold dfl; split <;> omega
  -- `BF_gensalt` looks at its arguments before the size, which `writes_bf` does not record: the first `if` of `gensaltBf`
  exact if_pos (by omega)

/-- the logarithmic-cost writers of the yescrypt family reject out-of-range counts (given a buffer that passes their size test) -/
theorem C11_log_reject_yescrypt (count : Nat) (rb : Bytes) (n osize : Nat) (ho : 192 ≤ osize) (h : 11 < count) :
    gensaltYescrypt count rb n osize = .err .EINVAL ∧ gensaltGost count rb n osize = .err .EINVAL ∧
    gensaltScrypt count rb n osize = .err .EINVAL := by
  have hb : base64Len (min n 64) ≤ 86 := base64Len_le (Nat.min_le_right n 64)
  exact ⟨(writes_yescrypt count rb n).einval (by omega) (by omega), (writes_gost count rb n).einval (by omega) (by omega),
    (writes_scrypt count rb n).einval (by omega) (by omega)⟩

/-- scrypt also rejects the costs 1..5 -/
theorem C11_log_reject_scrypt_low (count : Nat) (rb : Bytes) (n osize : Nat) (ho : 192 ≤ osize) (h : 0 < count ∧ count < 6) :
    gensaltScrypt count rb n osize = .err .EINVAL := by
  have hb : base64Len (min n 64) ≤ 86 := base64Len_le (Nat.min_le_right n 64)
  exact (writes_scrypt count rb n).einval (by omega) (by omega)

/-- sha256crypt/sha512crypt/md5crypt: the count that reaches the writer is the documented clamp -/
theorem C11_sha_clamp (count : Nat) :
    shaClamp 5000 1000 999999999 count = (if count = 0 then 5000 else if count < 1000 then 1000 else if count > 999999999 then 999999999 else count) := by
  unfold shaClamp; simp only []
  repeat' split
  all_goals omega

/-- no accepted count makes SunMD5 cheaper than its minimum, and the printed count never wraps crypt's
    32-bit round counter (this is what commit 5081cef repaired) -/
theorem C11_sunmd5_floor (count : Nat) (rb : Bytes) :
    32768 ≤ sunmd5Count count rb ∧ 4096 + sunmd5Count count rb < 2 ^ 32 := by
  have := sunmd5Count_bounds count rb
  omega

theorem sha1Clamp_bounds (count : Nat) : 4 ≤ sha1Clamp count ∧ sha1Clamp count ≤ 4294967295 ∧
    sha1Clamp count = (if count = 0 then 262144 else if count < 4 then 4 else if count > 4294967295 then 4294967295 else count) := by
  have hi : Gen.CRYPT_SHA1_ITERATIONS = 262144 := by decide
  have hu : UINT_MAX = 4294967295 := by decide
  unfold sha1Clamp; rw [hi, hu]; simp only []
  repeat' split
  all_goals omega

/-- sha1crypt: the printed iteration count lies in the window (K - K/4, K] around the clamped count K -/
theorem C11_sha1_window (count : Nat) (rb : Bytes) :
    sha1Clamp count - sha1Clamp count / 4 < sha1Rounds count rb ∧ sha1Rounds count rb ≤ sha1Clamp count := by
  obtain ⟨h4, hmax, _⟩ := sha1Clamp_bounds count
  unfold sha1Rounds; simp only []
  generalize (rbAt rb 0 + rbAt rb 1 * 256 + rbAt rb 2 * 65536 + rbAt rb 3 * 16777216) = rnd
  have hx : rnd % (sha1Clamp count / 4) < sha1Clamp count / 4 := Nat.mod_lt _ (by omega)
  generalize rnd % (sha1Clamp count / 4) = x at hx
  generalize sha1Clamp count = c at *
  have : (c - x) % 2 ^ 32 = c - x := Nat.mod_eq_of_lt (by omega)
  rw [this]; omega

/-- bsdicrypt: odd, at most 2^24 - 1, default 725 -/
theorem C11_bsdi (count : Nat) (rb : Bytes) (n osize : Nat) (s : Bytes) (e : Nat)
    (h : gensaltBsdi count rb n osize = .ok s e) :
    let c := if count = 0 then 725 else count
    let c := if c > 0xffffff then 0xffffff else c
    let c := if c % 2 = 0 then c + 1 else c
    s = [95] ++ enc24 c ++ enc24 (le24 rb 0) ∧ c % 2 = 1 ∧ c ≤ 0xffffff :=
  ⟨((writes_bsdi count rb n).ok h).2.2, bsdiCount_bounds count⟩

/-! ### the cost that `crypt` APPLIES to a generated setting (end to end: writer, then the method's parser) -/

/-- yescrypt: for cost `c = count` (or 5 when `count = 0`) the KDF runs with `N = 2^(c+9), r = 8` below 3 and `N = 2^(c+7), r = 32`
    from 3 on, `p = 1`, default flags — decoded back from the generated text by `yescrypt_r`'s own parser -/
theorem C11_yescrypt_applied (count : Nat) (rb : Bytes) (n osize : Nat) (S : Bytes) (e : Nat)
    (h : gensaltYescrypt count rb n osize = .ok S e) (D : Digests) (hD : D.WF) (p : Bytes) :
    1 ≤ dfl count 5 ∧ dfl count 5 ≤ 11 ∧
    (yesParamsOf (dfl count 5)).N = (if dfl count 5 < 3 then 2 ^ (dfl count 5 + 9) else 2 ^ (dfl count 5 + 7)) ∧
    (yesParamsOf (dfl count 5)).r = (if dfl count 5 < 3 then 8 else 32) ∧
    cryptYescrypt D p S = (match D.yescrypt (yesParamsOf (dfl count 5)) (padTo rb (min n 64)) p with
      | none => .error .EINVAL
      | some hd => .ok (S ++ 36 :: encode64 hd)) := by
  obtain ⟨⟨h11, _⟩, _⟩ := (writes_yescrypt count rb n).ok h
  have hc := yesCost_range h11
  exact ⟨hc.1, hc.2, (yesParamsOf_N_r _).1, (yesParamsOf_N_r _).2, accept_yescrypt h D hD p⟩

/-- gost-yescrypt: the same parameters reach the inner KDF -/
theorem C11_gost_applied (count : Nat) (rb : Bytes) (n osize : Nat) (S : Bytes) (e : Nat)
    (h : gensaltGost count rb n osize = .ok S e) (D : Digests) (hD : D.WF) (p : Bytes) :
    1 ≤ dfl count 5 ∧ dfl count 5 ≤ 11 ∧
    cryptGost D p S = (match D.yescrypt (yesParamsOf (dfl count 5)) (padTo rb (min n 64)) p with
      | none => .error .EINVAL
      | some hd => .ok (S ++ 36 :: encode64 (D.gostOuter p S hd))) := by
  obtain ⟨⟨h11, _⟩, _⟩ := (writes_gost count rb n).ok h
  have hc := yesCost_range h11
  exact ⟨hc.1, hc.2, accept_gost h D hD p⟩

/-- scrypt: cost `c = count` (or 7) in 6..11 gives `N = 2^(c+7), r = 32, p = 1` -/
theorem C11_scrypt_applied (count : Nat) (rb : Bytes) (n osize : Nat) (S : Bytes) (e : Nat)
    (h : gensaltScrypt count rb n osize = .ok S e) (D : Digests) (hD : D.WF) (p : Bytes) :
    6 ≤ dfl count 7 ∧ dfl count 7 ≤ 11 ∧
    cryptScrypt D p S = (match D.yescrypt { flags := 0, N := 2 ^ (dfl count 7 + 7), r := 32, p := 1, t := 0, g := 0, NROM := 0 }
        (encode64 (padTo rb (min n 64))) p with
      | none => .error .EINVAL
      | some hd => .ok (S ++ 36 :: encode64 hd)) := by
  obtain ⟨⟨h6, h11, _⟩, _⟩ := (writes_scrypt count rb n).ok h
  have hc := scryptCost_range h6 h11
  exact ⟨hc.1, hc.2, accept_scrypt h D hD p⟩

/-- sunmd5: crypt applies 4096 + the printed count, which lies in [4096 + 32768, 2^32) -/
theorem C11_sunmd5_applied (count : Nat) (rb : Bytes) (n osize : Nat) (S : Bytes) (e : Nat)
    (h : gensaltSunmd5 count rb n osize = .ok S e) (D : Digests) (p : Bytes) :
    cryptSunmd5 D p S = .ok (S ++ [36] ++ permEncode Gen.perm_sunmd5 (D.sunmd5 p S (4096 + sunmd5Count count rb))) :=
  accept_sunmd5 h D p

/-- sha256crypt / sha512crypt: the rounds the parser reads back from a generated setting are the documented clamp of `count` -/
theorem C11_sha_applied (count : Nat) (rb : Bytes) (n osize : Nat) (S : Bytes) (e : Nat) :
    (gensaltSha256 count rb n osize = .ok S e → ∃ P, parseSha Gen.sha256_salt_prefix Gen.sha256_rounds_prefix Gen.SHA256_ROUNDS_DEFAULT
        Gen.SHA256_ROUNDS_MIN Gen.SHA256_ROUNDS_MAX Gen.SHA256_SALT_LEN_MAX S = .ok P ∧
        P.rounds = shaClamp Gen.SHA256_ROUNDS_DEFAULT Gen.SHA256_ROUNDS_MIN Gen.SHA256_ROUNDS_MAX count) ∧
    (gensaltSha512 count rb n osize = .ok S e → ∃ P, parseSha Gen.sha512_salt_prefix Gen.sha512_rounds_prefix Gen.SHA512_ROUNDS_DEFAULT
        Gen.SHA512_ROUNDS_MIN Gen.SHA512_ROUNDS_MAX Gen.SHA512_SALT_LEN_MAX S = .ok P ∧
        P.rounds = shaClamp Gen.SHA512_ROUNDS_DEFAULT Gen.SHA512_ROUNDS_MIN Gen.SHA512_ROUNDS_MAX count) := by
  constructor <;> intro h
  · obtain ⟨P, hP, hr, _⟩ := parseSha_gen sha256Kind_gen h
    exact ⟨P, hP, hr⟩
  · obtain ⟨P, hP, hr, _⟩ := parseSha_gen sha512Kind_gen h
    exact ⟨P, hP, hr⟩

/-- bsdicrypt, end to end: hashing with a generated setting runs the DES core with exactly the encoded count (and the generated salt) -/
theorem C11_bsdi_applied (count : Nat) (rb : Bytes) (n osize : Nat) (S : Bytes) (e : Nat) (h : gensaltBsdi count rb n osize = .ok S e)
    (D : Digests) (p : Bytes) : cryptBsdi D p S = .ok (S ++ desEncode (D.bsdi p (le24 rb 0) (bsdiCount count))) :=
  accept_bsdi h D p

/-- bcrypt, end to end: hashing with a generated setting runs eksblowfish with exactly the requested cost (2^count iterations; 5 when
    `count` is 0) - read back from the two cost digits by the method's own parser -/
theorem C11_bcrypt_applied (sub : UInt8) (count : Nat) (rb : Bytes) (n osize : Nat) (S : Bytes) (e : Nat) (h : gensaltBf sub count rb n osize = .ok S e)
    (D : Digests) (hst : ∀ f, D.bfSelfTest f = true) (p : Bytes) :
    ∃ salt, cryptBf D p S = .ok (S ++ bfEncode (D.bf (Gen.flags_by_subtype.getD (sub.toNat - 97) 0).toNat (dfl count 5) salt p)) :=
  ⟨_, accept_bf h D hst p⟩

/-- sha1crypt, end to end: hashing with a generated setting runs PBKDF1-HMAC-SHA1 with exactly the printed iteration count
    (`sha1Rounds`: the clamped `count` minus a random part below a quarter of it - `C11_sha1_window`) -/
theorem C11_sha1_applied (count : Nat) (rb : Bytes) (n osize : Nat) (S : Bytes) (e : Nat) (h : gensaltSha1 count rb n osize = .ok S e)
    (D : Digests) (p : Bytes) : ∃ salt, cryptSha1 D p S = .ok (S ++ sha1Encode (D.sha1crypt p salt (sha1Rounds count rb))) :=
  ⟨_, accept_sha1 h D p⟩

end Xc.C11
