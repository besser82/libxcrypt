/-
  C14 — crypt_ra and crypt_gensalt_ra keep the caller's allocation protocol sound.
  The heap is abstract; the allocator's answer to each request is an arbitrary parameter, so the
  statements hold for every failure pattern and, by induction, for every history of calls.
-/
import Xc.Heap
import Xc.Thm.C05

namespace Xc.C14

/-- the caller's side of the contract: `*data` is NULL or a live block whose real size is at least the
    recorded `*size` whenever that is positive -/
def PairOk (h : Heap) (p : RaPair) : Prop :=
  match p.data with
  | none => True
  | some i => ∃ b, h.get i = some b ∧ b.live = true ∧ (0 < p.size → (p.size.toNat ≤ b.size))

/-- what the library guarantees after a call: `*data` unchanged, or a live block of at least
    `*size ≥ sizeof (struct crypt_data)` bytes -/
def PairGood (h : Heap) (p : RaPair) : Prop :=
  match p.data with
  | none => True
  | some i => ∃ b, h.get i = some b ∧ b.live = true ∧ (Gen.sizeof_crypt_data : Int) ≤ p.size ∧ p.size.toNat ≤ b.size

theorem get_set_same (h : Heap) (i : Nat) (b b' : HBlock) (hg : h.get i = some b) : (h.set i b').get i = some b' := by
  unfold Heap.get Heap.set at *
  obtain ⟨hi, _⟩ := List.getElem?_eq_some_iff.1 hg
  simp [hi]

theorem get_alloc_new (h : Heap) (b : HBlock) : (h.alloc b).1.get (h.alloc b).2 = some b := by
  simp [Heap.alloc, Heap.get]

/-- **one call, any prior pair, any allocator answer**:
    * result non-NULL ⇒ `*data` is a live block of ≥ `*size` ≥ sizeof bytes (the result is its `output` field, offset 0);
    * allocation failure ⇒ NULL, ENOMEM, pair untouched;
    * no growth needed ⇒ no allocator request, pair untouched. -/
theorem C14_step (cfg : Config) (D : Digests) (ph st : Option Bytes) (h : Heap) (p : RaPair) (obj : DataObj) (ok : Bool)
    (hp : PairOk h p) :
    let r := cryptRa cfg D ph st h p obj ok
    (r.2.2.2.grew = false → r.2.1 = p ∧ r.1 = h ∧ r.2.2.2.requests = 0) ∧
    (r.2.2.2.grew = true ∧ ok = false → r.2.1 = p ∧ r.2.2.2.ret = none ∧ r.2.2.2.errno = some .ENOMEM) ∧
    (r.2.2.2.grew = true ∧ ok = true → PairGood r.1 r.2.1 ∧ r.2.1.size = Gen.sizeof_crypt_data) ∧
    r.2.2.2.requests ≤ 1 := by
  intro r
  simp only [r, cryptRa]
  by_cases hc : p.data.isNone = true ∨ p.size < 0 ∨ p.size < (Gen.sizeof_crypt_data : Int)
  · rw [if_pos hc]
    cases ok with
    | false => simp
    | true =>
      simp only [Bool.not_true, Bool.false_eq_true, if_false]
      refine ⟨by simp, by simp, ?_, by simp⟩
      intro _
      refine ⟨?_, by simp⟩
      simp only [PairGood]
      exact ⟨_, get_set_same _ _ _ _ (get_alloc_new _ _), rfl, by simp, by simp⟩
  · rw [if_neg hc]
    simp

/-- when a block has to grow and the recorded size is positive and truthful, every byte of it has been
    erased before it is handed to realloc -/
theorem C14_erased_before_realloc (cfg : Config) (D : Digests) (ph st : Option Bytes) (h : Heap) (i : Nat) (b : HBlock) (size : Int)
    (obj : DataObj) (ok : Bool) (hb : h.get i = some b) (hs : 0 < size) (hlt : size < (Gen.sizeof_crypt_data : Int))
    (hexact : b.size ≤ size.toNat) :
    (cryptRa cfg D ph st h { data := some i, size := size } obj ok).2.2.2.oldErased = true := by
  have hc : (some i).isNone = true ∨ size < 0 ∨ size < (Gen.sizeof_crypt_data : Int) := Or.inr (Or.inr hlt)
  simp only [cryptRa, hc, if_true, hb, hs, hexact, decide_true, Bool.or_true]
  cases ok <;> simp

/-- the new block is zero-initialised before use: the hashing call sees a fresh all-zero object, so the
    result is the pure answer (C07) whatever the old block held -/
theorem C14_fresh_object (cfg : Config) (D : Digests) (hD : D.WF) (ph st : Option Bytes) (h : Heap) (p : RaPair) (obj : DataObj)
    (hc : p.data.isNone = true ∨ p.size < 0 ∨ p.size < (Gen.sizeof_crypt_data : Int)) (H : Bytes)
    (ha : cryptAnswer cfg D ph st = .ok H) :
    (cryptRa cfg D ph st h p obj true).2.2.2.ret = some H := by
  simp only [cryptRa, hc, if_true, Bool.not_true, Bool.false_eq_true, if_false]
  exact (C05.C05_r_ok cfg D ph st _ false H ha hD).1

/-- crypt_gensalt_ra: NULL with nothing allocated, or a block the caller frees -/
theorem C14_gensalt_ra (cfg : Config) (pfx : Option Bytes) (count : Nat) (rb : Option Bytes) (nrb : Int) (os : Nat → Bytes) :
    (gensaltRa cfg pfx count rb nrb false os).ret = none ∧ (gensaltRa cfg pfx count rb nrb false os).errno = some .ENOMEM := by
  simp [gensaltRa]

end Xc.C14
