/-
  C15 — allocation and mapping failures are reported cleanly and leak nothing.
-/
import Xc.Heap
namespace Xc.C15

/-- only the yescrypt family issues allocator / mapper requests, and then exactly two (mmap, munmap);
    every other method issues none -/
theorem C15_request_count (cfg : Config) (ph st : Option Bytes) : cryptRequests cfg ph st = 0 ∨ cryptRequests cfg ph st = 2 := by
  unfold cryptRequests
  repeat' split
  all_goals simp

theorem filter_set_live (l : List HBlock) (i : Nat) (b b' : HBlock) (hb : l[i]? = some b) (hl : b'.live = b.live) :
    ((l.set i b').filter (·.live)).length = (l.filter (·.live)).length := by
  induction l generalizing i with
  | nil => simp
  | cons x xs ih =>
    cases i with
    | zero =>
      simp only [List.getElem?_cons_zero, Option.some.injEq] at hb
      subst hb
      simp only [List.set_cons_zero, List.filter_cons, hl]
      split <;> simp
    | succ j =>
      simp only [List.getElem?_cons_succ] at hb
      simp only [List.set_cons_succ, List.filter_cons]
      split <;> simp [ih j hb]

/-- crypt_ra issues at most one request, and when it fails the caller's pair is untouched, the result is NULL
    with ENOMEM, and no block changes hands (the old block, already erased, is still the caller's to free) -/
theorem C15_ra_fault (cfg : Config) (D : Digests) (ph st : Option Bytes) (h : Heap) (p : RaPair) (obj : DataObj)
    (hc : p.data.isNone = true ∨ p.size < 0 ∨ p.size < (Gen.sizeof_crypt_data : Int)) :
    (cryptRa cfg D ph st h p obj false).2.1 = p ∧ (cryptRa cfg D ph st h p obj false).2.2.2.ret = none ∧
    (cryptRa cfg D ph st h p obj false).2.2.2.errno = some .ENOMEM ∧
    (cryptRa cfg D ph st h p obj false).1.liveCount = h.liveCount := by
  simp only [cryptRa, hc, if_true, Bool.not_false, if_true]
  refine ⟨trivial, trivial, trivial, ?_⟩
  cases hd : p.data with
  | none => rfl
  | some i =>
    simp only []
    cases hb : h.get i with
    | none => rfl
    | some b =>
      simp only []
      split
      · exact filter_set_live h.blocks i b _ hb rfl
      · rfl

end Xc.C15
