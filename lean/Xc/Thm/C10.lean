/-
  C10 — every setting crypt_gensalt* produces is accepted by crypt and kept in the hash.
-/
import Xc.Thm.C13
import Xc.Thm.C18
import Xc.Lemmas.Accept
import Xc.Thm.C01
import Xc.Config
namespace Xc.C10
open Xc

/-- determinism and agreement of the three entry points: `_ra` and the static variant are
    `crypt_gensalt_rn` with a CRYPT_GENSALT_OUTPUT_SIZE buffer; the result is a function of
    (prefix, count, random bytes) -/
theorem C10_entrypoints (cfg : Config) (pfx : Option Bytes) (count : Nat) (rb : Option Bytes) (nrb : Int) (os : Nat → Bytes) :
    (gensaltRa cfg pfx count rb nrb true os).ret = (gensaltRn cfg pfx count rb nrb Gen.CRYPT_GENSALT_OUTPUT_SIZE os).ret ∧
    (gensaltStatic cfg pfx count rb nrb os).ret = (gensaltRn cfg pfx count rb nrb Gen.CRYPT_GENSALT_OUTPUT_SIZE os).ret :=
  have h := C13.C13_entrypoints cfg pfx count rb nrb os
  ⟨congrArg GRes.ret h.1, congrArg GRes.ret h.2⟩

/-- NULL selects exactly the preferred method's prefix -/
theorem C10_null_is_default (cfg : Config) (p : Bytes) (hp : cfg.dflt = some p)
    (count : Nat) (rb : Option Bytes) (nrb osize : Int) (os : Nat → Bytes) :
    gensaltRn cfg none count rb nrb osize os = gensaltRn cfg (some p) count rb nrb osize os :=
  C18.C18_preferred_gensalt cfg p hp count rb nrb osize os

/-- the method is selected by the leading tag only: a full hash or setting `H'` that starts with a
    table prefix (and with no other) behaves as that prefix -/
theorem C10_select (cfg : Config) (x y : Bytes) (hxy : getHashFn cfg.table x = getHashFn cfg.table y)
    (count : Nat) (rb : Option Bytes) (nrb osize : Int) (os : Nat → Bytes) :
    gensaltRn cfg (some x) count rb nrb osize os = gensaltRn cfg (some y) count rb nrb osize os := by
  simp [gensaltRn, resolvePrefix, hxy]

/-- a successful result is shorter than the buffer it was written to (192 for `_ra` and the static variant) -/
theorem C10_short (cfg : Config) (pfx : Option Bytes) (count : Nat) (rb : Option Bytes) (nrb : Int) (os : Nat → Bytes) (S : Bytes)
    (h : (gensaltStatic cfg pfx count rb nrb os).ret = some S) : S.length < Gen.CRYPT_GENSALT_OUTPUT_SIZE := by
  have := (C13.C13_fit cfg pfx count rb nrb Gen.CRYPT_GENSALT_OUTPUT_SIZE os S (by simpa [gensaltStatic] using h)).1
  exact_mod_cast this

/-- "the KDF itself succeeds": whenever the parameters pass `yescrypt_kdf`'s sanity checks, memory is available (allocation
    failure is C15's subject; it is the only way a generated yescrypt-family setting can fail to hash) -/
def KdfOk (D : Digests) (p : Bytes) : Prop := ∀ P salt, yesKdfParamsOk P = true → (D.yescrypt P salt p).isSome = true

theorem kdfParams_gen : (∀ c, 1 ≤ c → c ≤ 11 → yesKdfParamsOk (yesParamsOf c) = true) ∧
    (∀ c, 6 ≤ c → c ≤ 11 → yesKdfParamsOk (scryptParamsOf c) = true) := by
  have : ∀ c : Fin 12, (1 ≤ c.val → yesKdfParamsOk (yesParamsOf c.val) = true) ∧ (6 ≤ c.val → yesKdfParamsOk (scryptParamsOf c.val) = true) := by
    decide
  exact ⟨fun c h1 h2 => (this ⟨c, by omega⟩).1 h1, fun c h1 h2 => (this ⟨c, by omega⟩).2 h1⟩

/-- **C10, acceptance clause for every method** (all sixteen; `$2x$` never generates anything): the method's `crypt` accepts
    what its `gensalt` wrote and the hash begins with the generated setting.  The yescrypt family needs the KDF to find its
    memory (`KdfOk`); bigcrypt keeps the whole setting when descrypt is enabled (the tree's configuration) and otherwise the two
    salt characters — the twelve filler characters written in a build without descrypt are, by design, not part of the hash. -/
theorem C10_accept_all (d : Bool) (D : Digests) (hD : D.WF) (hst : ∀ f, D.bfSelfTest f = true) (m : Method)
    (count : Nat) (rb : Bytes) (n osize : Nat) (S : Bytes) (e : Nat) (h : gensaltMethod d m count rb n osize = .ok S e)
    (p : Bytes) (hk : KdfOk D p) :
    ∃ H, cryptMethod d D m p S = .ok H ∧ (if m = .bigcrypt ∧ d = false then S.take 2 <+: H else S <+: H) := by
  have keep : ∀ {m : Method} {t : Bytes}, m ≠ .bigcrypt → cryptMethod d D m p S = .ok (S ++ t) →
      ∃ H, cryptMethod d D m p S = .ok H ∧ (if m = .bigcrypt ∧ d = false then S.take 2 <+: H else S <+: H) :=
    fun hm hc => ⟨_, hc, by rw [if_neg fun hh => hm hh.1]; exact List.prefix_append _ _⟩
  -- the yescrypt family: the generated parameters pass the KDF's checks, so it runs
  have kdf : ∀ {P : YParams} {salt : Bytes} {f : Bytes → Bytes} {r : CRes}, yesKdfParamsOk P = true →
      r = (match D.yescrypt P salt p with | none => .error .EINVAL | some hd => .ok (S ++ 36 :: f hd)) → ∃ t, r = .ok (S ++ t) :=
    fun {P salt _ _} hP hr => by
      have := hk P salt hP
      cases hq : D.yescrypt P salt p with
      | none => rw [hq] at this; cases this
      | some hd => rw [hq] at hr; exact ⟨_, hr⟩
  cases m <;> simp only [gensaltMethod] at h
  case yescrypt =>
    obtain ⟨⟨hc, _⟩, _⟩ := (writes_yescrypt count rb n).ok h
    obtain ⟨t, ht⟩ := kdf (kdfParams_gen.1 _ (yesCost_range hc).1 (yesCost_range hc).2) (accept_yescrypt h D hD p)
    exact keep (by simp) ht
  case gost_yescrypt =>
    obtain ⟨⟨hc, _⟩, _⟩ := (writes_gost count rb n).ok h
    obtain ⟨t, ht⟩ := kdf (f := fun hd => encode64 (D.gostOuter p S hd))
      (kdfParams_gen.1 _ (yesCost_range hc).1 (yesCost_range hc).2) (accept_gost h D hD p)
    exact keep (by simp) ht
  case scrypt =>
    obtain ⟨⟨h6, h11, _⟩, _⟩ := (writes_scrypt count rb n).ok h
    obtain ⟨t, ht⟩ := kdf (kdfParams_gen.2 _ (scryptCost_range h6 h11).1 (scryptCost_range h6 h11).2) (accept_scrypt h D hD p)
    exact keep (by simp) ht
  case bcrypt => exact keep (by simp) (accept_bf h D hst p)
  case bcrypt_y => exact keep (by simp) (accept_bf h D hst p)
  case bcrypt_a => exact keep (by simp) (accept_bf h D hst p)
  case bcrypt_x => cases h
  case sha512crypt => obtain ⟨P, _, hc⟩ := accept_sha sha512Kind_gen h D.sha512crypt p; exact keep (by simp) (by rw [← List.append_assoc]; exact hc)
  case sha256crypt => obtain ⟨P, _, hc⟩ := accept_sha sha256Kind_gen h D.sha256crypt p; exact keep (by simp) (by rw [← List.append_assoc]; exact hc)
  case sha1crypt => exact keep (by simp) (accept_sha1 h D p)
  case sunmd5 => exact keep (by simp) (by rw [← List.append_assoc]; exact accept_sunmd5 h D p)
  case md5crypt => exact keep (by simp) (by rw [← List.append_assoc]; exact accept_md5 h D p)
  case nt => exact keep (by simp) (by rw [← List.append_assoc]; exact accept_nt h D p)
  case bsdicrypt => exact keep (by simp) (accept_bsdi h D p)
  case bigcrypt =>
    obtain ⟨H, h1, h2, h3⟩ := accept_big d count rb n osize S e h D p
    refine ⟨H, h1, ?_⟩
    cases d
    · rw [if_pos ⟨rfl, rfl⟩]; exact h2
    · rw [if_neg (by simp)]; exact h3 rfl
  case descrypt => exact keep (by simp) (accept_des h D p)

/-- the tags `hashes.conf` gives the methods -/
theorem tagOf_eq (m : Method) : C18.tagOf m = match m with
    | .yescrypt => [36, 121, 36] | .gost_yescrypt => [36, 103, 121, 36] | .scrypt => [36, 55, 36]
    | .bcrypt => [36, 50, 98, 36] | .bcrypt_a => [36, 50, 97, 36] | .bcrypt_y => [36, 50, 121, 36] | .bcrypt_x => [36, 50, 120, 36]
    | .sha512crypt => [36, 54, 36] | .sha256crypt => [36, 53, 36] | .md5crypt => [36, 49, 36]
    | .sha1crypt => [36, 115, 104, 97, 49] | .sunmd5 => [36, 109, 100, 53] | .nt => [36, 51, 36]
    | .bsdicrypt => [95] | .descrypt => [] | .bigcrypt => [] := by
  cases m <;> decide

/-- a generated setting begins with the tag of the method that wrote it -/
theorem gensalt_tag (d : Bool) (m : Method) (count : Nat) (rb : Bytes) (n o : Nat) (S : Bytes) (e : Nat)
    (h : gensaltMethod d m count rb n o = .ok S e) :
    C18.tagOf m <+: S ∧ (C18.tagOf m = [] → isDesSaltChar (cat S 0) = true ∧ isDesSaltChar (cat S 1) = true ∧ S ≠ []) := by
  have nc : ∀ {P : Prop} {a : UInt8} {l : Bytes}, (a :: l = [] → P) := fun c => by cases c
  -- The texts are `literal ++ piece ++ piece ..`, bracketed to the left: the tag is a prefix of the literal, and the literal of the
  -- text by `pa`.  No `simp` on the texts: it moves the brackets by `rfl`, and re-checking that the kernel evaluates the pieces
  -- (`toDec`, `encGroups`), where a division by a literal applied to a variable sends it into deep recursion.
  have pa : ∀ {t a b : Bytes}, t <+: a → t <+: a ++ b := fun h => h.trans (List.prefix_append _ _)
  have des : ∀ t : Bytes, isDesSaltChar (cat ([a64 (rbAt rb 0), a64 (rbAt rb 1)] ++ t) 0) = true ∧
      isDesSaltChar (cat ([a64 (rbAt rb 0), a64 (rbAt rb 1)] ++ t) 1) = true ∧ [a64 (rbAt rb 0), a64 (rbAt rb 1)] ++ t ≠ [] :=
    fun t => ⟨C01.isDes_a64' _, C01.isDes_a64' _, by simp⟩
  have bf : ∀ sub : UInt8, gensaltBf sub count rb n o = .ok S e → [36, 50, sub, 36] <+: S := fun sub h => by
    obtain ⟨_, _, hS⟩ := (writes_bf sub count rb n).ok h
    exact hS ▸ pa ⟨[(48 + dfl count 5 / 10).toUInt8, (48 + dfl count 5 % 10).toUInt8, 36], rfl⟩
  have sha : ∀ (tag : UInt8) (sm dc mn mx : Nat), mx < 10000000000 → gensaltSha tag sm dc mn mx count rb n o = .ok S e → [36, tag, 36] <+: S :=
    fun tag sm dc mn mx hm h => by
      obtain ⟨_, _, hS⟩ := (writes_sha tag sm dc mn mx count rb n hm).ok h
      rw [hS, C12.shaHead]
      split
      · exact List.prefix_append _ _
      · exact pa (pa (pa (List.prefix_append _ _)))
  cases m <;> simp only [gensaltMethod] at h
  case yescrypt =>
    obtain ⟨_, _, hS⟩ := (writes_yescrypt count rb n).ok h
    rw [tagOf_eq]; exact ⟨by rw [hS, yesPfx]; exact pa (pa (pa (pa (List.prefix_append _ _)))), nc⟩
  case gost_yescrypt =>
    obtain ⟨_, _, hS⟩ := (writes_gost count rb n).ok h
    rw [tagOf_eq]; exact ⟨hS ▸ pa (List.prefix_append _ _), nc⟩
  case scrypt =>
    obtain ⟨_, _, hS⟩ := (writes_scrypt count rb n).ok h
    rw [tagOf_eq]; exact ⟨by rw [hS, scryptPfx]; exact pa (pa (pa (List.prefix_append _ _))), nc⟩
  case bcrypt => rw [tagOf_eq]; exact ⟨bf 98 h, nc⟩
  case bcrypt_y => rw [tagOf_eq]; exact ⟨bf 121 h, nc⟩
  case bcrypt_a => rw [tagOf_eq]; exact ⟨bf 97 h, nc⟩
  case bcrypt_x => cases h
  case sha512crypt => rw [tagOf_eq]; exact ⟨sha 54 _ _ _ _ (by decide) h, nc⟩
  case sha256crypt => rw [tagOf_eq]; exact ⟨sha 53 _ _ _ _ (by decide) h, nc⟩
  case sha1crypt =>
    obtain ⟨_, _, hS⟩ := (writes_sha1 count rb n).ok h
    rw [tagOf_eq]; exact ⟨hS ▸ pa (pa (pa (pa (by decide)))), nc⟩
  case sunmd5 =>
    obtain ⟨_, _, hS⟩ := (writes_sunmd5 count rb n).ok h
    rw [tagOf_eq]; exact ⟨hS ▸ pa (pa (pa (pa (pa (pa (List.prefix_refl _)))))), nc⟩
  case md5crypt => obtain ⟨_, _, hS⟩ := (writes_md5 count rb n).ok h; rw [tagOf_eq]; exact ⟨hS ▸ List.prefix_append _ _, nc⟩
  case nt => obtain ⟨_, _, hS⟩ := (writes_nt count).ok h; rw [tagOf_eq]; exact ⟨hS ▸ List.prefix_refl _, nc⟩
  case bsdicrypt => obtain ⟨_, _, hS⟩ := (writes_bsdi count rb n).ok h; rw [tagOf_eq]; exact ⟨hS ▸ pa (List.prefix_append _ _), nc⟩
  case bigcrypt => obtain ⟨_, _, hS⟩ := (writes_big d count rb n).ok h; rw [tagOf_eq]; exact ⟨List.nil_prefix, fun _ => hS ▸ des _⟩
  case descrypt => obtain ⟨_, _, hS⟩ := (writes_des count rb n).ok h; rw [tagOf_eq]; exact ⟨List.nil_prefix, fun _ => hS ▸ des []⟩

/-- rows of a generated table call the same method for hashing and for gensalt -/
theorem mkTable_same (conf : List ConfEntry) (en : Method → Bool) : ∀ r ∈ mkTable conf en, r.gensalt = r.crypt := by
  intro r hr
  unfold mkTable at hr
  simp only [List.mem_map] at hr
  obtain ⟨e, _, rfl⟩ := hr
  rfl

theorem table_same_tree : ∀ r ∈ Gen.table, r.gensalt = r.crypt := by decide

/-- **C10 at the level of the API**: in every configuration whose table is `TableOk` and whose rows use one method for hashing
    and gensalt (every generated table: `mkTable_same`), whatever `crypt_gensalt_rn` returned — any prefix (or NULL), count, random
    bytes, nrbytes, output size — is passwd-safe, is dispatched by `crypt` to the same table row the prefix selected, and `crypt`
    of any phrase shorter than 512 bytes with it succeeds with a hash that begins with the generated setting -/
theorem C10_api (cfg : Config) (hT : C18.TableOk cfg.table = true) (hG : ∀ r ∈ cfg.table, r.gensalt = r.crypt)
    (D : Digests) (hD : D.WF) (hst : ∀ f, D.bfSelfTest f = true)
    (pfx : Option Bytes) (count : Nat) (rb : Option Bytes) (nrb osize : Int) (os : Nat → Bytes) (S : Bytes)
    (h : (gensaltRn cfg pfx count rb nrb osize os).ret = some S) (p : Bytes) (hp : p.length < Gen.CRYPT_MAX_PASSPHRASE_SIZE) (hk : KdfOk D p) :
    passwdSafe S = true ∧
    ∃ r H, getHashFn cfg.table S = some r ∧ (∃ p0, resolvePrefix cfg pfx = some p0 ∧ getHashFn cfg.table p0 = some r) ∧
      cryptPure cfg D p S = .ok H ∧ (if r.crypt = .bigcrypt ∧ cfg.descryptOn = false then S.take 2 <+: H else S <+: H) := by
  obtain ⟨_, p0, r, ext, hp0, hr, hw⟩ := C13.gensaltRn_ok.mp h
  have rmem : r ∈ cfg.table := List.mem_of_find?_eq_some hr
  rw [hG r rmem] at hw
  have hsafe := gensaltMethod_safe _ _ _ _ _ _ _ _ hw
  obtain ⟨htag, hdes⟩ := gensalt_tag _ _ _ _ _ _ _ _ hw
  have rtag := C01.tableOk_tag hT rmem
  have hdisp : getHashFn cfg.table S = some r := by
    apply C01.redispatch cfg.table hT p0 S r hr
    by_cases he : r.pfx = []
    · exact .inr ⟨he, hdes (rtag ▸ he)⟩
    · exact .inl ⟨he, rtag ▸ htag⟩
  obtain ⟨H, hH, hpre⟩ := C10_accept_all cfg.descryptOn D hD hst r.crypt count _ _ _ S ext hw p hk
  exact ⟨hsafe, r, H, hdisp, ⟨p0, hp0, hr⟩, cryptPure_ok.mpr ⟨hp, by rw [checkBad_eq, hsafe]; rfl, r, hdisp, hH⟩, hpre⟩

end Xc.C10
