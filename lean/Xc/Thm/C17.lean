/-
  C17 — DES core and the obsolete setkey/encrypt API implement standard DES.
-/
import Xc.Lemmas.DesInv
import Xc.Lemmas.DesRound
import Xc.Lemmas.DesKs
namespace Xc.C17
open Xc.Spec.DesT

/-- every lookup table compiled into the library (alg-des-tables.c, as extracted from the tree) is the table
    obtained from the FIPS 46-3 permutations by the documented construction -/
theorem des_tables_ip :
    (List.range 8).map (tab32 (ipMask true) · 256) = Gen.des_ip_maskl ∧
    (List.range 8).map (tab32 (ipMask false) · 256) = Gen.des_ip_maskr := by
  constructor <;> decide +kernel

theorem des_tables_fp :
    (List.range 8).map (tab32 (fpMask true) · 256) = Gen.des_fp_maskl ∧
    (List.range 8).map (tab32 (fpMask false) · 256) = Gen.des_fp_maskr := by
  constructor <;> decide +kernel

theorem des_tables_key :
    (List.range 8).map (tab32 (keyPermMask true) · 128) = Gen.des_key_perm_maskl ∧
    (List.range 8).map (tab32 (keyPermMask false) · 128) = Gen.des_key_perm_maskr ∧
    (List.range 8).map (tab32 (compMask true) · 128) = Gen.des_comp_maskl ∧
    (List.range 8).map (tab32 (compMask false) · 128) = Gen.des_comp_maskr := by
  refine ⟨?_, ?_, ?_, ?_⟩ <;> decide +kernel

theorem des_tables_psbox : (List.range 4).map (tab32 psboxEntry · 256) = Gen.des_psbox := by
  decide +kernel

theorem des_tables_sbox :
    (List.range 4).map (fun b => (List.range 16).map fun r => tab8 mSboxEntry b (256 * r) 256) = Gen.des_m_sbox :=
  Des.msbox_tab

theorem des_key_shifts : Gen.des_key_shifts = [1, 1, 2, 2, 2, 2, 2, 2, 1, 2, 2, 2, 2, 2, 2, 1] := by decide

/-- **decryption inverts encryption** (and vice versa) at the level of `des_crypt_block`'s rounds: for every key schedule, every
    salt, every pair of block halves and every iteration count, running the sixteen rounds with the round keys in reverse order
    undoes running them in order — the Feistel argument, which holds whatever the round function computes.  The initial and
    final permutations and the byte packing around these rounds come in with `C17_decrypt_inverts_encrypt`. -/
theorem C17_rounds_invert (c : Des.Ctx) (n : Nat) (p : UInt32 × UInt32) :
    Des.iter (Des.pass c.saltbits (Des.keyList c true)) n (Des.iter (Des.pass c.saltbits (Des.keyList c false)) n p) = p ∧
    Des.pass c.saltbits (Des.keyList c false) (Des.pass c.saltbits (Des.keyList c true) p) = p :=
  ⟨Des.iter_inverse' _ _ (Des.pass_inverse c false) n p, Des.pass_inverse c true p⟩

/-- **decryption inverts encryption** (and encryption inverts decryption): for every key schedule, every salt, every iteration
    count and every 8-byte block, `des_crypt_block` with `decrypt` set undoes `des_crypt_block` without it.  Ingredients:
    the Feistel argument for the rounds (`C17_rounds_invert`), `FP ∘ IP = id` and `IP ∘ FP = id` on all 2^64 blocks (the tables
    are OR-linear, so the composite is determined by what it does to the 64 blocks with a single bit set, and it leaves them in
    place: `Lemmas/DesPerm.lean`), and the big-endian packing round trip. -/
theorem C17_decrypt_inverts_encrypt (c : Des.Ctx) (x : Bytes) (hx : x.length = 8) (count : Nat) :
    Des.cryptBlock c (Des.cryptBlock c x count false) count true = x ∧
    Des.cryptBlock c (Des.cryptBlock c x count true) count false = x :=
  ⟨Des.cryptBlock_inverse c false x hx count, Des.cryptBlock_inverse c true x hx count⟩

/-- the initial and the final permutation are inverse bijections of the 64-bit blocks -/
theorem C17_ip_fp (p : UInt32 × UInt32) :
    Des.permLL Gen.des_fp_maskl Gen.des_fp_maskr (Des.permLL Gen.des_ip_maskl Gen.des_ip_maskr p) = p ∧
    Des.permLL Gen.des_ip_maskl Gen.des_ip_maskr (Des.permLL Gen.des_fp_maskl Gen.des_fp_maskr p) = p :=
  ⟨Des.fp_ip p, Des.ip_fp p⟩

/-- **key parity bits are ignored**: two keys that agree on the upper seven bits of every byte give the same key schedule -/
theorem C17_key_parity (key key' : Bytes) (h : ∀ i, i < 8 → (key.getD i 0) >>> 1 = (key'.getD i 0) >>> 1) :
    Des.setKey key = Des.setKey key' := by
  have hs : Des.sevenOfKey (be32 key 0) (be32 key 4) = Des.sevenOfKey (be32 key' 0) (be32 key' 4) := by
    funext j
    rw [Des.sevenOfKey_eq key j, Des.sevenOfKey_eq key' j, h j.val j.isLt]
  unfold Des.setKey
  simp only [hs]

/-- **the round function is FIPS 46-3's**: the table-driven round of `des_crypt_block` - E by masks and shifts, crypt(3)'s salt
    exchange, `psbox[b][m_sbox[b][…]]` for b = 0…3 - computes `L' = R`, `R' = L ⊕ P(S(E(R) ⊕ K))` as defined bit by bit from the FIPS
    tables E, S1…S8, P (`Spec.DesT.fipsF`; salt 0 is plain DES), for all 2^32 · 2^32 halves, every salt and every 48-bit round key -/
theorem C17_round_is_fips (salt l r kl kr : UInt32) (hkl : kl.toNat < 2 ^ 24) (hkr : kr.toNat < 2 ^ 24) :
    Des.round salt l r kl kr = (r, l ^^^ fipsF salt r kl kr) :=
  Des.round_fips salt l r kl kr hkl hkr

/-- `des_set_key` only produces round keys of two 24-bit halves, so the hypothesis of `C17_round_is_fips` holds in every call -/
theorem C17_round_keys_24bit (key : Bytes) (salt : Nat) (decrypt : Bool) :
    ∀ k ∈ Des.keyList (Des.mkCtx key salt) decrypt, k.1.toNat < 2 ^ 24 ∧ k.2.toNat < 2 ^ 24 := by
  intro k hk
  rw [Des.keyList_fips] at hk
  have hin : k ∈ (List.range 16).map (ksFips (be32 key 0, be32 key 4)) := by
    unfold Des.keysFips at hk
    cases decrypt <;> simpa using hk
  obtain ⟨r, _, rfl⟩ := List.mem_map.1 hin
  exact ⟨gatherN_lt 28 (PC2.take 24) (by decide) _ _, gatherN_lt 28 (PC2.drop 24) (by decide) _ _⟩

/-- a whole pass of `des_crypt_block` (sixteen table-driven rounds and the final exchange) is sixteen FIPS rounds, for every key,
    salt, direction and block -/
theorem C17_pass_is_fips (key : Bytes) (salt : Nat) (decrypt : Bool) (p : UInt32 × UInt32) :
    Des.pass (Des.saltBits salt) (Des.keyList (Des.mkCtx key salt) decrypt) p =
      Des.passFips (Des.saltBits salt) (Des.keyList (Des.mkCtx key salt) decrypt) p :=
  Des.pass_fips _ _ (C17_round_keys_24bit key salt decrypt) p

/-- the table-driven initial and final permutations are IP and IP⁻¹ of FIPS 46-3 on all 2^64 blocks -/
theorem C17_ip_is_fips (p : UInt32 × UInt32) : Des.permLL Gen.des_ip_maskl Gen.des_ip_maskr p = perm64 IP p := Des.ip_fips p
theorem C17_fp_is_fips (p : UInt32 × UInt32) : Des.permLL Gen.des_fp_maskl Gen.des_fp_maskr p = perm64 IPinv p := Des.fp_fips p

/-- **`des_crypt_block` is DES as FIPS 46-3 defines it**, given the round keys: IP, `count` times (sixteen FIPS rounds and the exchange
    of the halves), IP⁻¹, on the big-endian halves of the block - for every key, salt, count, direction and 8-byte input -/
theorem C17_block_is_fips (key : Bytes) (salt : Nat) (x : Bytes) (count : Nat) (decrypt : Bool) :
    Des.cryptBlock (Des.mkCtx key salt) x count decrypt =
      toBe32 (Des.blockFips (Des.saltBits salt) (Des.keyList (Des.mkCtx key salt) decrypt) (if count = 0 then 1 else count) (be32 x 0, be32 x 4)).1 ++
      toBe32 (Des.blockFips (Des.saltBits salt) (Des.keyList (Des.mkCtx key salt) decrypt) (if count = 0 then 1 else count) (be32 x 0, be32 x 4)).2 := by
  have hs : (Des.mkCtx key salt).saltbits = Des.saltBits salt := rfl
  rw [Des.cryptBlock_eq, hs, Des.fp_fips, Des.ip_fips, Des.iter_congr _ _ (C17_pass_is_fips key salt decrypt)]
  rfl

/-- **permuted choice 1 and 2 of the key schedule are FIPS 46-3's**: the table passes of `des_set_key` over the upper seven bits of the
    key bytes select C0, D0 by PC-1, and the table passes over the rotated halves select the round key by PC-2, for every input -/
theorem C17_pc1_is_fips (raw0 raw1 : UInt32) :
    (Des.or8 Des.keyPermL (Des.sevenOfKey raw0 raw1), Des.or8 Des.keyPermR (Des.sevenOfKey raw0 raw1)) = selN 32 PC1 28 (raw0, raw1) :=
  Des.pc1_fips raw0 raw1
theorem C17_pc2_is_fips (t0 t1 : UInt32) :
    (Des.or8 Des.compL (Des.sevenOfT t0 t1), Des.or8 Des.compR (Des.sevenOfT t0 t1)) = selN 28 PC2 24 (t0 &&& 0x0fffffff, t1 &&& 0x0fffffff) :=
  Des.pc2_fips t0 t1

/-- the FIPS cipher function is not trivially constant: a concrete value (R = 0, K = 0: every S-box sees the group 000000) -/
example : fipsF 0 0 0 0 = 0xd8d8dbbc := by decide +kernel

/-- **the key schedule is FIPS 46-3's KS**: for every key and every round r < 16 the round key stored by `des_set_key` is PC-2 of the
    halves C0, D0 = PC-1(key) rotated left by the cumulative published shift -/
theorem C17_key_schedule_is_fips (key : Bytes) (r : Nat) (hr : r < 16) :
    ((Des.setKey key).1[r]!, (Des.setKey key).2[r]!) = ksFips (be32 key 0, be32 key 4) r :=
  Des.setKey_fips key r hr

/-- **`des_set_key; des_set_salt; des_crypt_block` is DES as FIPS 46-3 defines it** (extended by crypt(3)'s salt and iteration count):
    KS, IP, `count` × (sixteen rounds `L' = R, R' = L ⊕ P(S(E(R) ⊕ K))` and the exchange of the halves), IP⁻¹ - everything on the right-hand
    side is written from the FIPS tables (Spec/DesTables.lean), for every 8-byte key, salt, count, direction and 8-byte block -/
theorem C17_des_is_fips (key : Bytes) (salt : Nat) (x : Bytes) (count : Nat) (decrypt : Bool) :
    Des.cryptBlock (Des.mkCtx key salt) x count decrypt =
      toBe32 (Des.blockFips (Des.saltBits salt) (Des.keysFips (be32 key 0, be32 key 4) decrypt) (if count = 0 then 1 else count) (be32 x 0, be32 x 4)).1 ++
      toBe32 (Des.blockFips (Des.saltBits salt) (Des.keysFips (be32 key 0, be32 key 4) decrypt) (if count = 0 then 1 else count) (be32 x 0, be32 x 4)).2 := by
  rw [C17_block_is_fips, Des.keyList_fips]

/-- the obsolete API's core - `setkey` then `encrypt` on the packed key and block: salt 0, one pass - is plain FIPS 46-3 DES, in both directions -/
theorem C17_setkey_encrypt_is_fips (key x : Bytes) (decrypt : Bool) :
    Des.cryptBlock (Des.mkCtx key 0) x 1 decrypt =
      toBe32 (Des.blockFips 0 (Des.keysFips (be32 key 0, be32 key 4) decrypt) 1 (be32 x 0, be32 x 4)).1 ++
      toBe32 (Des.blockFips 0 (Des.keysFips (be32 key 0, be32 key 4) decrypt) 1 (be32 x 0, be32 x 4)).2 := by
  rw [C17_des_is_fips, show Des.saltBits 0 = 0 by decide]
  rfl

/-- the core of traditional crypt(3) (`des_gen_hash`, used by descrypt, bigcrypt and bsdicrypt): `count` DES encryptions of the zero block
    under the salt's exchange of E-bits -/
theorem C17_des_hash_is_fips (key : Bytes) (salt count : Nat) :
    Des.desHash key salt count =
      toBe32 (Des.blockFips (Des.saltBits salt) (Des.keysFips (be32 key 0, be32 key 4) false) (if count = 0 then 1 else count) (0, 0)).1 ++
      toBe32 (Des.blockFips (Des.saltBits salt) (Des.keysFips (be32 key 0, be32 key 4) false) (if count = 0 then 1 else count) (0, 0)).2 := by
  unfold Des.desHash
  rw [C17_des_is_fips]
  rfl

/-- the classic test vector through the FIPS-side definition alone: key 133457799BBCDFF1, block 0123456789ABCDEF -> 85E813540F0AB405 -/
example : (let p := Des.blockFips 0 (Des.keysFips (0x13345779, 0x9bbcdff1) false) 1 (0x01234567, 0x89abcdef); (p.1, p.2)) = (0x85e81354, 0x0f0ab405) := by
  decide +kernel

end Xc.C17
