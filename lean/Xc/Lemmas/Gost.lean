/-
  gost-yescrypt (`$gy$`): `decode64 ∘ encode64 = id`, the shape of the inner `$y$` result with its bounds on the parameter and
  salt strings (so that the result still passes the `set_size + 45` pre-check), the wrapper evaluated on a setting whose inner
  setting parses (`gost_eval`), and the round trip of crypt_gost_yescrypt_rn (C01).
-/
import Xc.Lemmas.YesParse
namespace Xc
open List

/-! ### `decode64` -/

theorem enc64Group1 (a : UInt8) : enc64Group [a] = [a64 a.toNat, a64 (a.toNat / 64)] := by
  simp [enc64Group, rbAt, List.range_succ]
theorem enc64Group2 (a b : UInt8) : enc64Group [a, b] =
    [a64 (a.toNat + b.toNat * 256), a64 ((a.toNat + b.toNat * 256) / 64), a64 ((a.toNat + b.toNat * 256) / 4096)] := by
  simp [enc64Group, rbAt, List.range_succ]
theorem enc64Group3 (a b c : UInt8) : enc64Group [a, b, c] =
    [a64 (a.toNat + b.toNat * 256 + c.toNat * 65536), a64 ((a.toNat + b.toNat * 256 + c.toNat * 65536) / 64),
     a64 ((a.toNat + b.toNat * 256 + c.toNat * 65536) / 4096), a64 ((a.toNat + b.toNat * 256 + c.toNat * 65536) / 262144)] := by
  simp [enc64Group, rbAt, List.range_succ]

theorem u8_of_nat (a : UInt8) (n : Nat) (h : n = a.toNat) : n.toUInt8 = a := by
  subst h; simp

theorem yDecode64_go_encode64 : ∀ (d : Bytes) (fuel : Nat), (encode64 d).length ≤ fuel → yDecode64.go (fuel + 1) (encode64 d) = some d
  | [], fuel, _ => by simp [encode64, yDecode64.go]
  | [a], fuel, _ => by
    have ha := a.toNat_lt
    simp only [encode64, enc64Group1, yDecode64.go, yAtoi_a64']
    rw [show a.toNat % 64 + a.toNat / 64 % 64 * 64 = a.toNat by omega, show a.toNat / 256 = 0 by omega]
    simp only [ne_eq, not_true_eq_false, if_false, Option.some.injEq, List.cons.injEq, and_true]
    exact u8_of_nat a _ (by omega)
  | [a, b], fuel, _ => by
    have ha := a.toNat_lt; have hb := b.toNat_lt
    simp only [encode64, enc64Group2, yDecode64.go, yAtoi_a64']
    generalize hv : a.toNat + b.toNat * 256 = v
    rw [show v % 64 + v / 64 % 64 * 64 + v / 4096 % 64 * 4096 = v by omega, show v / 65536 = 0 by omega]
    simp only [ne_eq, not_true_eq_false, if_false, Option.some.injEq, List.cons.injEq, and_true]
    exact ⟨u8_of_nat a _ (by omega), u8_of_nat b _ (by omega)⟩
  | a :: b :: c :: rest, fuel, h => by
    have ha := a.toNat_lt; have hb := b.toNat_lt; have hc := c.toNat_lt
    simp only [encode64, List.length_append, enc64Group_length, List.length_cons, List.length_nil] at h
    simp only [encode64, enc64Group3, List.cons_append, List.nil_append, yDecode64.go, yAtoi_a64']
    obtain ⟨f, rfl⟩ : ∃ f, fuel = f + 1 := ⟨fuel - 1, by omega⟩
    rw [yDecode64_go_encode64 rest f (by omega)]
    generalize hv : a.toNat + b.toNat * 256 + c.toNat * 65536 = v
    rw [show v % 64 + v / 64 % 64 * 64 + v / 4096 % 64 * 4096 + v / 262144 % 64 * 262144 = v by omega]
    simp only [Option.map_some, Option.some.injEq, List.cons.injEq, and_true]
    exact ⟨u8_of_nat a _ (by omega), u8_of_nat b _ (by omega), u8_of_nat c _ (by omega)⟩

theorem yDecode64_encode64 (d : Bytes) (m : Nat) : yDecode64 (encode64 d) m = if d.length > m then none else some d := by
  unfold yDecode64
  have hany : (encode64 d).any (fun c => decide (yAtoi c > 63)) = false := by
    rw [List.any_eq_false]; intro c hc; simpa using encode64_yvalid d c hc
  rw [hany]
  simp only [Bool.false_eq_true, if_false]
  rw [yDecode64_go_encode64 d _ (Nat.le_refl _)]

theorem yDecode64_src {src out : Bytes} {m : Nat} (h : yDecode64 src m = some out) :
    (∀ c ∈ src, ¬ yAtoi c > 63) ∧ 3 * src.length ≤ 4 * m + 4 := by
  obtain ⟨h1, h2, _, h4⟩ := yDecode64_ok h
  exact ⟨h1, by omega⟩

/-! ### the inner `$y$` call and the wrapper -/

/-- `"$y$params$salt$hash"`: after the tag, `pre` has a `$` at `pl - 1` and no other -/
def YShape (y : Bytes) (pl sl : Nat) (hd : Bytes) : Prop :=
  ∃ pre, y = pre ++ 36 :: encode64 hd ∧ pre.length = pl + sl ∧ 4 ≤ pl ∧ cat pre (pl - 1) = 36 ∧
    (∀ x, 3 ≤ x → x < pl - 1 → cat pre x ≠ 36) ∧ (∀ x, pl ≤ x → x < pl + sl → cat pre x ≠ 36)

theorem yescryptR_Y_struct {D : Digests} {p s out : Bytes} {n : Nat} (h : yescryptR D p s n = some out) (hy : cat s 1 ≠ 55) :
    ∃ Q hd, parseYescrypt s n = some Q ∧ D.yescrypt Q.params Q.salt p = some hd ∧
      Q.prefixlen ≤ 76 ∧ Q.saltstrlen ≤ 86 ∧ Q.prefixlen + Q.saltstrlen ≤ s.length ∧
      out = s.take (Q.prefixlen + Q.saltstrlen) ++ 36 :: encode64 hd ∧ YShape out Q.prefixlen Q.saltstrlen hd ∧
      ∀ tail, (36 : UInt8) ∉ tail → yescryptR D p (s.take (Q.prefixlen + Q.saltstrlen) ++ 36 :: tail) n = some out := by
  obtain ⟨Q, hd, hQ, hD, _, hle, e, f⟩ := yescryptR_struct h
  obtain ⟨P, pl, hP, hF⟩ := parseYescrypt_ok.mp hQ
  obtain ⟨c4, c76, c36, cval, _⟩ := yParamsY_spec hP hy
  obtain ⟨_, rfl, _, hsalt, _⟩ := yFinish_inv hF
  rw [if_neg hy] at hsalt
  -- the salt string was decoded: it is in the alphabet, and 64 bytes come from at most 86 characters
  obtain ⟨sval, slen⟩ := yDecode64_src hsalt
  have hsl : ((s.drop Q.prefixlen).take Q.saltstrlen).length = Q.saltstrlen := by rw [List.length_take, List.length_drop]; omega
  rw [hsl] at slen
  refine ⟨Q, hd, hQ, hD, c76, by omega, hle, e,
    ⟨s.take (Q.prefixlen + Q.saltstrlen), e, by rw [List.length_take]; omega, c4, ?_, fun x h1 h2 => ?_, fun x h1 h2 => ?_⟩, f⟩
  · rw [cat_take _ _ _ (by omega)]; exact c36
  · rw [cat_take _ _ _ (by omega)]; exact yAtoi_valid_ne_36 (cval x h1 h2)
  · rw [cat_take _ _ _ h2]
    have := cat_mem (l := (s.drop Q.prefixlen).take Q.saltstrlen) (i := x - Q.prefixlen) (by omega)
    rw [cat_take _ _ _ (by omega), cat_drop, show Q.prefixlen + (x - Q.prefixlen) = x by omega] at this
    exact yAtoi_valid_ne_36 (sval _ this)

/-- `crypt_gost_yescrypt_rn` on a `$gy$` setting whose inner `$y$` setting parses as `Q` -/
theorem gost_eval {D : Digests} {p S : Bytes} {Q : YParsed} (hlen : S.length + 1 + 43 + 1 ≤ Gen.CRYPT_OUTPUT_SIZE)
    (hpre : hasPrefix S [36, 103, 121, 36] = true)
    (hQ : parseYescrypt ([36, 121, 36] ++ S.drop 4) (Gen.CRYPT_OUTPUT_SIZE - 1) = some Q) :
    cryptGost D p S = match D.yescrypt Q.params Q.salt p with
      | none => .error .EINVAL
      | some hd => if hd.length = 32 then
          .ok (S.take (Q.prefixlen + Q.saltstrlen + 1) ++ 36 :: encode64 (D.gostOuter p (S.take (Q.prefixlen + Q.saltstrlen + 1)) hd))
        else .error .EINVAL := by
  cases hy : yescryptR D p ([36, 121, 36] ++ S.drop 4) (Gen.CRYPT_OUTPUT_SIZE - 1) with
  | none =>
    have e : cryptGost D p S = .error .EINVAL := by
      unfold cryptGost
      simp only [if_neg (Nat.not_lt.mpr hlen), hpre, not_true_eq_false, if_false, hy]
    rw [e]
    -- the inner call fails only without a KDF result or with one too long for the buffer
    cases hDy : D.yescrypt Q.params Q.salt p with
    | none => rfl
    | some hd =>
      dsimp only
      rw [if_neg]
      intro h32
      obtain ⟨P, pl, _, hF⟩ := parseYescrypt_ok.mp hQ
      obtain ⟨_, rfl, _, _, hneed⟩ := yFinish_inv hF
      have := yescryptR_ok.mpr ⟨Q, hd, hQ, hDy, rfl, by
        rw [show Gen.YESCRYPT_HASH_LEN = 43 from rfl] at hneed
        simp [encode64_length, h32, base64Len]; omega⟩
      rw [hy] at this
      cases this
  | some y =>
    obtain ⟨Q', hd, hQ', hDy, _, _, hk, hout, ⟨pre, e, hl, h4, c36, cp, cs⟩, _⟩ := yescryptR_Y_struct hy (by simp [cat])
    cases hQ.symm.trans hQ'
    generalize Q.prefixlen = pl at *
    generalize Q.saltstrlen = sl at *
    have ylen : y.length = pl + sl + 1 + (encode64 hd).length := by rw [e]; simp; omega
    have ycat : ∀ x, x < pl + sl → cat y x = cat pre x := fun x hx => by rw [e, cat_append_left _ (by omega)]
    have ycat36 : cat y (pl + sl) = 36 := by rw [e, ← hl]; exact cat_append_mid _ _ _
    -- the two `strchr` scans find the `$` that ends the parameters and the one that ends the salt
    have k1 : strchr (y.drop 3) 36 = some (pl - 4) :=
      strchr_spec _ _ _ (by rw [List.length_drop]; omega)
        (by rw [cat_drop, ycat _ (by omega), show 3 + (pl - 4) = pl - 1 by omega]; exact c36)
        (fun j hj => by rw [cat_drop, ycat _ (by omega)]; exact cp _ (by omega) (by omega))
    have k2 : strchr (y.drop (3 + (pl - 4) + 1)) 36 = some sl := by
      rw [show 3 + (pl - 4) + 1 = pl by omega]
      exact strchr_spec _ _ _ (by rw [List.length_drop]; omega) (by rw [cat_drop]; exact ycat36)
        (fun j hj => by rw [cat_drop, ycat _ (by omega)]; exact cs _ (by omega) (by omega))
    have hoff : 3 + (pl - 4) + 1 + sl + 1 = pl + sl + 1 := by omega
    have ydrop : y.drop (pl + sl + 1) = encode64 hd := by
      rw [e, List.drop_append, List.drop_of_length_le (by omega), hl, show pl + sl + 1 - (pl + sl) = 1 by omega]; rfl
    -- the kept part of `y`, with `$gy` for `$y`, is the kept part of `S` and the `$` behind it
    have hkeep : [36, 103] ++ (y.take (pl + sl + 1)).drop 1 = S.take (pl + sl + 1) ++ [36] := by
      have hS := hasPrefix_split hpre
      generalize S.drop 4 = rest at *
      obtain ⟨j, hj⟩ : ∃ j, pl + sl = j + 3 := ⟨pl + sl - 3, by omega⟩
      have hjl : (rest.take j).length = j := by rw [List.length_take]; simp at hk; omega
      rw [hS, hout, hj]
      simp [List.take_append, List.take_take, hjl]
    unfold cryptGost
    rw [if_neg (Nat.not_lt.mpr hlen)]
    simp only [hpre, not_true_eq_false, if_false, hy, k1, k2, hoff, ydrop, yDecode64_encode64, hkeep, hDy]
    by_cases h32 : hd.length = 32
    · simp [h32]
    · by_cases hgt : hd.length > 32 <;> simp [h32, hgt]

/-- 163 = 76 (inner tag and parameters) + 86 (salt string) + 1 (`$gy$` is one longer than `$y$`) -/
theorem cryptGost_struct {D : Digests} {p S H : Bytes} (h : cryptGost D p S = .ok H) :
    ∃ Q hd k, parseYescrypt ([36, 121, 36] ++ S.drop 4) (Gen.CRYPT_OUTPUT_SIZE - 1) = some Q ∧
      D.yescrypt Q.params Q.salt p = some hd ∧ hd.length = 32 ∧ k = Q.prefixlen + Q.saltstrlen + 1 ∧ 5 ≤ k ∧ k ≤ 163 ∧ k ≤ S.length ∧
      H = S.take k ++ 36 :: encode64 (D.gostOuter p (S.take k) hd) ∧
      ∀ t : Bytes, (36 : UInt8) ∉ t → k + 1 + t.length + 45 ≤ Gen.CRYPT_OUTPUT_SIZE → cryptGost D p (S.take k ++ 36 :: t) = .ok H := by
  obtain ⟨hlen, hpre, y, _, _, _, hy, _⟩ := cryptGost_ok.mp h
  obtain ⟨Q, hd, hQ, hDy, hpl, hsl, hk, _, ⟨_, _, _, h4, _⟩, _⟩ := yescryptR_Y_struct hy (by simp [cat])
  rw [gost_eval hlen hpre hQ, hDy] at h
  dsimp only at h
  split at h
  case isFalse => cases h
  rename_i h32
  cases h
  have hS4 : 4 ≤ S.length := by rw [hasPrefix_split hpre]; simp
  have hkS : Q.prefixlen + Q.saltstrlen + 1 ≤ S.length := by simp at hk; omega
  refine ⟨Q, hd, _, hQ, hDy, h32, rfl, by omega, by omega, hkS, rfl, fun t ht hfit => ?_⟩
  -- the inner setting of `take k S ++ "$" ++ t` is that of `S` cut after its salt string, followed by `"$" ++ t`
  have hin : [36, 121, 36] ++ (S.take (Q.prefixlen + Q.saltstrlen + 1) ++ 36 :: t).drop 4 =
      (([36, 121, 36] : Bytes) ++ S.drop 4).take (Q.prefixlen + Q.saltstrlen) ++ 36 :: t := by
    rw [drop_take_append S _ 4 _ (by omega) hkS, List.take_append, List.take_of_length_le (l := [36, 121, 36]) (by simp; omega)]
    simp [show Q.prefixlen + Q.saltstrlen + 1 - 4 = Q.prefixlen + Q.saltstrlen - 3 by omega]
  have hQ' := (parseYescrypt_refeed hQ t ht).2.2
  rw [← hin] at hQ'
  rw [gost_eval (by simp; omega) (hasPrefix_take_append hpre _ _ (by simp; omega)) hQ', hDy]
  dsimp only
  rw [if_pos h32, List.take_left' (by rw [List.length_take]; omega)]

theorem cryptGost_fix (D : Digests) (hD : D.WF) (p S H : Bytes) (h : cryptGost D p S = .ok H) : cryptGost D p H = .ok H := by
  obtain ⟨_, hd, k, _, _, _, _, _, hk, _, e, f⟩ := cryptGost_struct h
  have hgl : (encode64 (D.gostOuter p (S.take k) hd)).length = 43 := by rw [encode64_length, hD.gost]; rfl
  have := f _ (encode64_no36 (D.gostOuter p (S.take k) hd)) (by rw [hgl]; have : Gen.CRYPT_OUTPUT_SIZE = 384 := rfl; omega)
  rwa [← e] at this

end Xc
