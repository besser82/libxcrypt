/-
  bcrypt: `BF_set_key` reads at most 72 bytes of the phrase (C03, the documented window).
-/
import Xc.Prim.Blowfish
namespace Xc.Bf

theorem keyStream_congr (A B : Bytes) (hag : ∀ i, i < 72 → cat A i = cat B i) (hA : 72 < A.length) (hB : 72 < B.length) :
    ∀ k pos, pos + k ≤ 72 → keyStream A k pos = keyStream B k pos := by
  intro k
  induction k with
  | zero => intro pos _; rfl
  | succ k ih =>
    intro pos h
    simp only [keyStream]
    rw [hag pos (by omega)]
    by_cases hc : cat B pos = 0
    · rw [if_pos hc, if_neg (by omega), if_neg (by omega), ih 0 (by omega)]
    · rw [if_neg hc, if_neg (by omega), if_neg (by omega), ih (pos + 1) (by omega)]

theorem setKey_window (p t t' : Bytes) (flags : Nat) (h : p.length = 72) : setKey (p ++ t) flags = setKey (p ++ t') flags := by
  unfold setKey
  rw [keyStream_congr (p ++ t ++ [0]) (p ++ t' ++ [0]) ?_ (by simp; omega) (by simp; omega) 72 0 (by omega)]
  intro i hi
  have hi' : i < p.length := by omega
  simp [cat, List.getD, List.getElem?_append_left hi']

theorem bcryptCore_window (flags cost : Nat) (salt p t t' : Bytes) (h : p.length = 72) :
    bcryptCore flags cost salt (p ++ t) = bcryptCore flags cost salt (p ++ t') := by
  unfold bcryptCore bcryptRaw
  rw [setKey_window p t t' flags h]
end Xc.Bf
