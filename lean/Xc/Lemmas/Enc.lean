/-
  The text encoders of the sixteen methods (`toDec`, `permEncode`, `sha1Encode`, `hexLower`, `desEncode`, `bfEncode`,
  `encode64`, `enc24`): each emits characters of its alphabet only, hence passwd-safe text without `$`, and a number of
  them that depends on the length of its input alone; `decode64` on the way back.
-/
import Xc.Lemmas.Alpha
import Xc.Lemmas.Dec
namespace Xc
open List

theorem passwdSafe_of_ascii64 {t : Bytes} (h : t ⊆ Gen.ascii64) : passwdSafe t = true :=
  (passwdSafe_iff t).mpr fun c hc => ascii64_notBad c (h hc)

theorem no36_of_ascii64 {t : Bytes} (h : t ⊆ Gen.ascii64) : (36 : UInt8) ∉ t := by
  intro hm; exact (ascii64_text _ (h hm)).2 rfl

theorem toDec_safe (n : Nat) : passwdSafe (toDec n) = true := by
  have : ∀ c : UInt8, isDigit c = true → isBadSaltChar c = false := forall_uint8 _ (by decide +kernel)
  exact (passwdSafe_iff _).mpr fun c hc => this c (toDec_digits n c hc)

/-! ### `b64_from_24bit` under an output schedule -/

theorem b64from24_length (a b c n : Nat) : (b64from24 a b c n).length = n := by simp [b64from24]

theorem permEncode_length (sched : List (Nat × Nat × Nat × Nat)) (d : Bytes) :
    (permEncode sched d).length = (sched.map (fun x => x.2.2.2)).sum := by
  induction sched with
  | nil => simp [permEncode]
  | cons x xs ih =>
    obtain ⟨a, b, c, n⟩ := x
    simp only [permEncode, flatMap_cons, length_append, map_cons, sum_cons, b64from24_length] at ih ⊢
    rw [ih]

theorem permEncode_subset (sched : List (Nat × Nat × Nat × Nat)) (d : Bytes) : permEncode sched d ⊆ Gen.ascii64 := by
  intro x hx
  simp only [permEncode, b64from24, mem_flatMap, mem_map] at hx
  obtain ⟨_, _, i, _, rfl⟩ := hx; exact a64_mem_ascii64 _

theorem permEncode_safe (sched : List (Nat × Nat × Nat × Nat)) (d : Bytes) : passwdSafe (permEncode sched d) = true :=
  passwdSafe_of_ascii64 (permEncode_subset sched d)

theorem permEncode_no36 (sched : List (Nat × Nat × Nat × Nat)) (d : Bytes) : (36 : UInt8) ∉ permEncode sched d :=
  no36_of_ascii64 (permEncode_subset sched d)

/-- sha1crypt's digest text is an output schedule like the others (its last group wraps to byte 0) -/
def sha1Sched : List (Nat × Nat × Nat × Nat) := [(0, 1, 2, 4), (3, 4, 5, 4), (6, 7, 8, 4), (9, 10, 11, 4), (12, 13, 14, 4), (15, 16, 17, 4), (18, 19, 0, 4)]

theorem sha1Encode_eq (d : Bytes) : sha1Encode d = permEncode sha1Sched d := by
  simp [sha1Encode, permEncode, sha1Sched, b64from24, enc24, range, range.loop]

theorem sha1Encode_safe (d : Bytes) : passwdSafe (sha1Encode d) = true := by rw [sha1Encode_eq]; exact permEncode_safe _ _

theorem sha1Encode_length (d : Bytes) : (sha1Encode d).length = 28 := by rw [sha1Encode_eq, permEncode_length]; rfl

theorem sha1Encode_no36 (d : Bytes) : (36 : UInt8) ∉ sha1Encode d := by
  rw [sha1Encode_eq]; exact permEncode_no36 _ _

@[simp] theorem enc24_length (v : Nat) : (enc24 v).length = 4 := rfl

theorem enc24_safe (v : Nat) : passwdSafe (enc24 v) = true := by
  simp [enc24, a64_safe]

/-! ### hex -/

theorem hexLower_digits (d : Bytes) : ∀ c ∈ hexLower d, ∃ k : Fin 16, c = hexDigit k.val := by
  intro x hx
  simp only [hexLower, mem_flatMap, mem_cons, not_mem_nil, or_false] at hx
  obtain ⟨b, _, rfl | rfl⟩ := hx
  · exact ⟨⟨b.toNat / 16, by have := b.toNat_lt; omega⟩, rfl⟩
  · exact ⟨⟨b.toNat % 16, Nat.mod_lt _ (by decide)⟩, rfl⟩

theorem hexLower_safe (d : Bytes) : passwdSafe (hexLower d) = true :=
  (passwdSafe_iff _).mpr fun c hc => by obtain ⟨k, rfl⟩ := hexLower_digits d c hc; exact hexDigit_safe k

theorem hexLower_length (d : Bytes) : (hexLower d).length = 2 * d.length := by
  induction d with
  | nil => rfl
  | cons a t ih => simp only [hexLower, flatMap_cons, length_append, length_cons, length_nil] at ih ⊢; omega

/-! ### `des_gen_hash`'s output stage and `BF_encode` -/

/-- `desEncode` and `bfEncode` with the alphabet `α` left open -/
def enc3 (α : Nat → UInt8) : Bytes → Bytes
  | [] => []
  | [a] => [α (a.toNat / 4), α ((a.toNat % 4) * 16)]
  | [a, b] => [α (a.toNat / 4), α ((a.toNat % 4) * 16 + b.toNat / 16), α ((b.toNat % 16) * 4)]
  | a :: b :: c :: rest =>
    [α (a.toNat / 4), α ((a.toNat % 4) * 16 + b.toNat / 16), α ((b.toNat % 16) * 4 + c.toNat / 64), α (c.toNat % 64)]
      ++ enc3 α rest

theorem desEncode_eq : ∀ d : Bytes, desEncode d = enc3 a64 d
  | [] | [_] | [_, _] => rfl
  | _ :: _ :: _ :: rest => by rw [desEncode, enc3, desEncode_eq rest]

theorem bfEncode_eq : ∀ d : Bytes, bfEncode d = enc3 bf64 d
  | [] | [_] | [_, _] => rfl
  | _ :: _ :: _ :: rest => by rw [bfEncode, enc3, bfEncode_eq rest]

theorem enc3_subset {α : Nat → UInt8} {A : Bytes} (hα : ∀ i, α i ∈ A) : ∀ d : Bytes, enc3 α d ⊆ A
  | [] => nil_subset _
  | [_] => by simp [enc3, hα]
  | [_, _] => by simp [enc3, hα]
  | _ :: _ :: _ :: rest => by simp [enc3, hα, enc3_subset hα rest]

theorem enc3_length (α : Nat → UInt8) : ∀ d : Bytes, (enc3 α d).length = (4 * d.length + 2) / 3
  | [] | [_] | [_, _] => by simp [enc3]
  | _ :: _ :: _ :: rest => by simp [enc3, enc3_length α rest]; omega

theorem desEncode_subset (d : Bytes) : desEncode d ⊆ Gen.ascii64 := by rw [desEncode_eq]; exact enc3_subset a64_mem_ascii64 d

theorem desEncode_safe (d : Bytes) : passwdSafe (desEncode d) = true := passwdSafe_of_ascii64 (desEncode_subset d)

theorem desEncode_length8 (l : Bytes) (h : l.length = 8) : (desEncode l).length = 11 := by
  rw [desEncode_eq, enc3_length, h]

theorem bfEncode_subset (d : Bytes) : bfEncode d ⊆ Gen.BF_itoa64 := by rw [bfEncode_eq]; exact enc3_subset bf64_mem_itoa64 d

theorem bfEncode_safe (d : Bytes) : passwdSafe (bfEncode d) = true :=
  (passwdSafe_iff _).mpr fun c hc => BF_itoa64_notBad c (bfEncode_subset d hc)

theorem bfEncode_length23 (l : Bytes) (h : l.length = 23) : (bfEncode l).length = 31 := by
  rw [bfEncode_eq, enc3_length, h]

theorem bfEncode_length16 (l : Bytes) (h : l.length = 16) : (bfEncode l).length = 22 := by
  rw [bfEncode_eq, enc3_length, h]

theorem padTo_length (rb : Bytes) (k : Nat) : (padTo rb k).length = k := by simp [padTo]

/-! ### `encode64` of the yescrypt family -/

theorem enc64Group_length (g : Bytes) : (enc64Group g).length = (8 * g.length + 5) / 6 := by simp [enc64Group]

theorem base64Len_add3 (n : Nat) : base64Len (n + 3) = base64Len n + 4 := by unfold base64Len; omega

theorem encode64_length : ∀ l : Bytes, (encode64 l).length = base64Len l.length
  | [] => by simp [encode64, base64Len]
  | [_] => by simp [encode64, enc64Group, base64Len]
  | [_, _] => by simp [encode64, enc64Group, base64Len]
  | _ :: _ :: _ :: rest => by
    have ih := encode64_length rest
    simp only [encode64, List.length_append, ih, List.length_cons]
    rw [show rest.length + 1 + 1 + 1 = rest.length + 3 from rfl, base64Len_add3]
    simp [enc64Group]; omega

theorem enc64Group_subset (g : Bytes) : enc64Group g ⊆ Gen.ascii64 := by
  intro x hx
  simp only [enc64Group, mem_map] at hx
  obtain ⟨i, _, rfl⟩ := hx; exact a64_mem_ascii64 _

theorem encode64_subset : ∀ d : Bytes, encode64 d ⊆ Gen.ascii64
  | [] => nil_subset _
  | [_] | [_, _] => enc64Group_subset _
  | _ :: _ :: _ :: rest => by rw [encode64]; exact append_subset.mpr ⟨enc64Group_subset _, encode64_subset rest⟩

theorem encode64_safe (d : Bytes) : passwdSafe (encode64 d) = true := passwdSafe_of_ascii64 (encode64_subset d)

theorem encode64_no36 : ∀ d : Bytes, (36 : UInt8) ∉ encode64 d := fun d => no36_of_ascii64 (encode64_subset d)

theorem encode64_valid (d : Bytes) : ∀ c ∈ encode64 d, scryptSaltChar c = true :=
  fun c hc => (ascii64_text c (encode64_subset d hc)).1

theorem encode64_yvalid (d : Bytes) : ∀ c ∈ encode64 d, ¬ yAtoi c > 63 :=
  fun c hc => Nat.not_lt.mpr (ascii64_yAtoi c (encode64_subset d hc))

/-! ### `decode64` of alg-yescrypt-common.c, the way back -/

theorem yDecode64_go_length : ∀ (fuel : Nat) (l out : Bytes), yDecode64.go fuel l = some out →
    out.length * 4 ≤ l.length * 3 ∧ 3 * l.length ≤ 4 * out.length + 4
  | 0, _, _, h => by simp [yDecode64.go] at h
  | f + 1, [], out, h => by simp [yDecode64.go] at h; subst h; simp
  | f + 1, [_], out, h => by simp [yDecode64.go] at h
  | f + 1, [a, b], out, h => by
    simp only [yDecode64.go] at h
    split at h; · cases h
    cases h; simp
  | f + 1, [a, b, c], out, h => by
    simp only [yDecode64.go] at h
    split at h; · cases h
    cases h; simp
  | f + 1, a :: b :: c :: d :: rest, out, h => by
    simp only [yDecode64.go, Option.map_eq_some_iff] at h
    obtain ⟨r, hr, rfl⟩ := h
    have := yDecode64_go_length f rest r hr
    simp only [List.length_cons]; omega

/-- the two inequalities: four characters stand for three bytes, a last group of two or three characters for one or two -/
theorem yDecode64_ok {src out : Bytes} {m : Nat} (h : yDecode64 src m = some out) :
    (∀ c ∈ src, ¬ yAtoi c > 63) ∧ out.length ≤ m ∧ out.length * 4 ≤ src.length * 3 ∧ 3 * src.length ≤ 4 * out.length + 4 := by
  unfold yDecode64 at h
  split at h; · cases h
  rename_i hany
  split at h; · cases h
  rename_i o ho
  split at h; · cases h
  rename_i hlen
  cases h
  obtain ⟨h1, h2⟩ := yDecode64_go_length _ _ _ ho
  exact ⟨fun c hc hbad => hany (List.any_eq_true.mpr ⟨c, hc, by simpa using hbad⟩), Nat.le_of_not_lt hlen, h1, h2⟩

end Xc
