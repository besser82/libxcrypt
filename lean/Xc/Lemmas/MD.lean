/-
  Streaming = one-shot for the generic Merkle–Damgård context (C16): whatever the chunking,
  `final (update … (update init c₁) … cₙ) = hash (c₁ ++ … ++ cₙ)`.
-/
import Xc.Prim.MD
namespace Xc.MD

variable {σ : Type}

theorem lenField_length (A : Alg σ) (n : Nat) : (lenField A n).length = A.lenBytes := by
  unfold lenField leBytes; split <;> simp

theorem absorb_short (A : Alg σ) (s : σ) (m : Bytes) (h : m.length < A.block) : absorb A s m = s := by
  rw [absorb]; simp [h]

theorem absorb_nil (A : Alg σ) (s : σ) : absorb A s [] = s := by
  rw [absorb, dif_pos (by simp only [List.length_nil]; omega)]

theorem absorb_step (A : Alg σ) (s : σ) (m : Bytes) (hb : 0 < A.block) (h : A.block ≤ m.length) :
    absorb A s m = absorb A (A.compress s (m.take A.block)) (m.drop A.block) := by
  rw [absorb]
  have : ¬ (A.block = 0 ∨ m.length < A.block) := by omega
  simp [this]

theorem absorb_one (A : Alg σ) (hb : 0 < A.block) (s : σ) (m : Bytes) (h : m.length = A.block) :
    absorb A s m = A.compress s m := by
  rw [absorb_step A s m hb (by omega), List.take_of_length_le (by omega), List.drop_of_length_le (by omega)]
  exact absorb_nil A _

theorem absorb_append (A : Alg σ) (hb : 0 < A.block) : ∀ (k : Nat) (s : σ) (x y : Bytes),
    x.length = k * A.block → absorb A s (x ++ y) = absorb A (absorb A s x) y := by
  intro k
  induction k with
  | zero =>
    intro s x y hx
    have : x = [] := by simpa using hx
    subst this
    simp [absorb_nil]
  | succ k ih =>
    intro s x y hx
    have hxl : A.block ≤ x.length := by rw [hx]; exact Nat.le_mul_of_pos_left _ (by omega)
    rw [absorb_step A s (x ++ y) hb (by simp; omega), absorb_step A s x hb hxl]
    rw [List.take_append_of_le_length hxl, List.drop_append_of_le_length hxl]
    apply ih
    simp only [List.length_drop, hx]
    rw [Nat.succ_mul]; omega

/-- a context that has been fed exactly the message `m` -/
structure Rep (A : Alg σ) (c : Ctx σ) (m : Bytes) : Prop where
  count : c.count = m.length
  short : c.buf.length < A.block
  split : ∃ pre k, m = pre ++ c.buf ∧ pre.length = k * A.block ∧ c.st = absorb A A.iv pre

theorem init_rep (A : Alg σ) (hb : 0 < A.block) : Rep A (init A) [] :=
  ⟨rfl, by simpa [init] using hb, [], 0, by simp [init], by simp, by simp [init, absorb_nil]⟩

theorem update_rep (A : Alg σ) (hb : 0 < A.block) (c : Ctx σ) (m d : Bytes) (h : Rep A c m) :
    Rep A (update A c d) (m ++ d) := by
  obtain ⟨hc, hs, pre, k, hm, hpre, hst⟩ := h
  have hdm := Nat.div_add_mod (c.buf ++ d).length A.block
  have hml := Nat.mod_lt (c.buf ++ d).length hb
  have hle : (c.buf ++ d).length / A.block * A.block ≤ (c.buf ++ d).length := Nat.div_mul_le_self _ _
  refine ⟨by simp [update, hc], ?_, pre ++ (c.buf ++ d).take ((c.buf ++ d).length / A.block * A.block),
    k + (c.buf ++ d).length / A.block, ?_, ?_, ?_⟩
  · simp only [update, List.length_drop]
    rw [Nat.mul_comm] at hdm; omega
  · simp only [update]
    rw [hm, List.append_assoc, List.append_assoc, List.take_append_drop]
  · simp only [List.length_append, List.length_take, hpre]
    rw [Nat.min_eq_left (by simpa using hle), Nat.add_mul]
  · simp only [update]
    rw [hst, ← absorb_append A hb k A.iv pre _ hpre]

theorem update_short (A : Alg σ) (c : Ctx σ) (d : Bytes) (h : c.buf.length + d.length < A.block) :
    update A c d = { st := c.st, buf := c.buf ++ d, count := c.count + d.length } := by
  have hz : (c.buf ++ d).length / A.block = 0 := Nat.div_eq_of_lt (by simpa using h)
  simp only [update, hz, Nat.zero_mul, List.take_zero, List.drop_zero]
  rw [absorb_nil]

theorem rep_count_mod (A : Alg σ) (c : Ctx σ) (m : Bytes) (h : Rep A c m) :
    c.count % A.block = c.buf.length ∧ c.buf.length = m.length % A.block := by
  obtain ⟨hc, hs, pre, k, hm, hpre, _⟩ := h
  have : m.length = k * A.block + c.buf.length := by rw [hm, List.length_append, hpre]
  rw [hc, this, Nat.mul_comm, Nat.mul_add_mod, Nat.mod_eq_of_lt hs]
  exact ⟨rfl, rfl⟩

theorem final_rep (A : Alg σ) (hb : 0 < A.block) (c : Ctx σ) (m : Bytes) (h : Rep A c m) :
    final A c = hash A m := by
  obtain ⟨hc, _, pre, k, hm, hpre, hst⟩ := h
  simp only [final, hash]
  rw [hc, hst, ← absorb_append A hb k A.iv pre _ hpre]
  subst hm
  rw [List.append_assoc]

theorem foldl_rep (A : Alg σ) (hb : 0 < A.block) (chunks : List Bytes) (c : Ctx σ) (m : Bytes) (h : Rep A c m) :
    Rep A (chunks.foldl (update A) c) (m ++ chunks.flatten) := by
  induction chunks generalizing c m with
  | nil => simpa using h
  | cons d rest ih =>
    simp only [List.foldl_cons, List.flatten_cons]
    rw [← List.append_assoc]
    exact ih _ _ (update_rep A hb c m d h)

theorem streaming_eq_hash (A : Alg σ) (hb : 0 < A.block) (chunks : List Bytes) :
    final A (chunks.foldl (update A) (init A)) = hash A chunks.flatten := by
  have := foldl_rep A hb chunks (init A) [] (init_rep A hb)
  simpa using final_rep A hb _ _ this

end Xc.MD
