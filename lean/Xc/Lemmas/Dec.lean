/-
  Decimal printing and parsing: `toDec` (`%lu`) emits digits only, no leading zero, as many as the number has, and
  `strtoul10` reads them back: what a front-end prints into a cost field is what its parser reads (C01).
-/
import Xc.Lemmas.Str
namespace Xc

def digitOf (n : Nat) : UInt8 := 48 + (n % 10).toUInt8

theorem digitOf_isDigit (n : Nat) : isDigit (digitOf n) = true := by
  have h : ∀ k : Fin 10, isDigit (48 + (k.val).toUInt8) = true := by decide
  exact h ⟨n % 10, Nat.mod_lt _ (by decide)⟩

theorem digitOf_val (n : Nat) : (digitOf n).toNat - 48 = n % 10 := by
  have h : ∀ k : Fin 10, ((48 : UInt8) + (k.val).toUInt8).toNat - 48 = k.val := by decide
  exact h ⟨n % 10, Nat.mod_lt _ (by decide)⟩

theorem digitOf_pos (n : Nat) (h : n % 10 ≠ 0) : 49 ≤ digitOf n ∧ digitOf n ≤ 57 := by
  have h' : ∀ k : Fin 10, k.val ≠ 0 → (49 : UInt8) ≤ 48 + (k.val).toUInt8 ∧ (48 : UInt8) + (k.val).toUInt8 ≤ 57 := by decide
  exact h' ⟨n % 10, Nat.mod_lt _ (by decide)⟩ h

theorem decDigitsAux_acc (fuel n : Nat) (acc : Bytes) : decDigitsAux fuel n acc = decDigitsAux fuel n [] ++ acc := by
  induction fuel generalizing n acc with
  | zero => simp [decDigitsAux]
  | succ f ih =>
    simp only [decDigitsAux]
    split
    · simp
    · rw [ih (n / 10) (_ :: acc), ih (n / 10) [_]]; simp

theorem decDigitsAux_succ (f n : Nat) : decDigitsAux (f + 1) n [] = (if n / 10 = 0 then [] else decDigitsAux f (n / 10) []) ++ [digitOf n] := by
  simp only [decDigitsAux]
  split
  · simp [digitOf]
  · rw [decDigitsAux_acc]; simp [digitOf]

/-- digit count with the recursion skeleton of `decDigitsAux` -/
def ndF : Nat → Nat → Nat
  | 0, _ => 0
  | f + 1, n => if n / 10 = 0 then 1 else 1 + ndF f (n / 10)

theorem ndF_step (f n : Nat) : ndF (f + 1) n = if n / 10 = 0 then 1 else 1 + ndF f (n / 10) := rfl

theorem ndF_zero (f : Nat) : ndF (f + 1) 0 = 1 := by simp [ndF]

theorem decDigits_length (f n : Nat) : (decDigitsAux f n []).length = ndF f n := by
  induction f generalizing n with
  | zero => rfl
  | succ f ih => rw [decDigitsAux_succ, ndF]; split <;> simp [ih]; omega

theorem decDigitsAux_length (fuel n : Nat) (acc : Bytes) :
    (decDigitsAux fuel n acc).length = acc.length + ndF fuel n := by
  rw [decDigitsAux_acc, List.length_append, decDigits_length, Nat.add_comm]

theorem ndF_le (f n : Nat) : ndF f n ≤ f := by
  induction f generalizing n with
  | zero => exact Nat.le_refl 0
  | succ f ih => rw [ndF]; split; · omega
                 have := ih (n / 10); omega

theorem ndF_fuel : ∀ f g n, n < 10 ^ (f + 1) → f ≤ g → ndF (g + 1) n = ndF (f + 1) n := by
  intro f
  induction f with
  | zero => intro g n h _; simp [ndF, show n / 10 = 0 by omega]
  | succ f ih =>
    intro g n h hg
    obtain ⟨g, rfl⟩ : ∃ g', g = g' + 1 := ⟨g - 1, by omega⟩
    rw [ndF.eq_2 n, ndF.eq_2 n, ih g (n / 10) (by rw [Nat.pow_succ] at h; omega) (by omega)]

theorem toDec_length_pos (n : Nat) : 0 < (toDec n).length := by
  rw [toDec, decDigits_length, ndF]; split <;> omega

theorem toDec_length_le20 (n : Nat) : (toDec n).length ≤ 20 := by
  rw [toDec, decDigits_length]; exact ndF_le 20 n

theorem toDec_length_le {n k : Nat} (h : n < 10 ^ (k + 1)) (hk : k ≤ 19) : (toDec n).length ≤ k + 1 := by
  rw [toDec, decDigits_length, ndF_fuel k 19 n h hk]; exact ndF_le _ _

theorem toDec_length_le10 (n : Nat) (h : n < 10000000000) : (toDec n).length ≤ 10 :=
  toDec_length_le (k := 9) h (by decide)

theorem digitsValue_snoc (ds : Bytes) (c : UInt8) : digitsValue (ds ++ [c]) = digitsValue ds * 10 + (c.toNat - 48) := by
  simp [digitsValue, List.foldl_append]

theorem decDigits_all (f n : Nat) : ∀ c ∈ decDigitsAux f n [], isDigit c = true := by
  induction f generalizing n with
  | zero => simp [decDigitsAux]
  | succ f ih =>
    rw [decDigitsAux_succ]
    intro c hc
    simp only [List.mem_append, List.mem_singleton] at hc
    rcases hc with hc | rfl
    · split at hc
      · simp at hc
      · exact ih _ c hc
    · exact digitOf_isDigit n

theorem decDigits_value (f n : Nat) (h : n < 10 ^ f) : digitsValue (decDigitsAux f n []) = n := by
  induction f generalizing n with
  | zero => simp at h; subst h; simp [decDigitsAux, digitsValue]
  | succ f ih =>
    rw [decDigitsAux_succ, digitsValue_snoc, digitOf_val]
    split
    · rename_i h0; simp [digitsValue]; omega
    · rw [ih (n / 10) (by rw [Nat.pow_succ] at h; omega)]; omega

theorem decDigits_head (f n : Nat) (h : n < 10 ^ f) (hn : 0 < n) :
    ∃ c t, decDigitsAux f n [] = c :: t ∧ 49 ≤ c ∧ c ≤ 57 := by
  induction f generalizing n with
  | zero => simp at h; omega
  | succ f ih =>
    rw [decDigitsAux_succ]
    split
    · rename_i h0
      have := digitOf_pos n (by omega)
      exact ⟨digitOf n, [], by simp, this.1, this.2⟩
    · rename_i h0
      obtain ⟨c, t, e, a, b⟩ := ih (n / 10) (by rw [Nat.pow_succ] at h; omega) (by omega)
      exact ⟨c, t ++ [digitOf n], by simp [e], a, b⟩

theorem toDec_digits (n : Nat) : ∀ c ∈ toDec n, isDigit c = true := decDigits_all 20 n
theorem toDec_value (n : Nat) (h : n < 10 ^ 20) : digitsValue (toDec n) = n := decDigits_value 20 n h
theorem toDec_head (n : Nat) (h : n < 10 ^ 20) (hn : 0 < n) : ∃ c t, toDec n = c :: t ∧ 49 ≤ c ∧ c ≤ 57 := decDigits_head 20 n h hn

theorem strtoul10_digit (x : Bytes) (h0 : isDigit (cat x 0) = true) :
    strtoul10 x =
      if digitsValue (x.takeWhile isDigit) > ULONG_MAX then { value := ULONG_MAX, consumed := (x.takeWhile isDigit).length, erange := true }
      else { value := digitsValue (x.takeWhile isDigit), consumed := (x.takeWhile isDigit).length, erange := false } := by
  cases x with
  | nil => simp [cat, isDigit] at h0
  | cons c t =>
    have hc : isDigit c = true := by simpa [cat] using h0
    have c45 : c ≠ 45 := by intro h; subst h; simp [isDigit] at hc
    have c43 : c ≠ 43 := by intro h; subst h; simp [isDigit] at hc
    unfold strtoul10
    split
    rename_i neg sl heq
    split at heq
    · rename_i h2; simp at h2; exact absurd h2.1 c45
    · rename_i h2; simp at h2; exact absurd h2.1 c43
    · simp only [Prod.mk.injEq] at heq
      obtain ⟨rfl, rfl⟩ := heq
      simp [hc]

theorem strtoul10_consumed (x : Bytes) (h0 : isDigit (cat x 0) = true) : (strtoul10 x).consumed = (x.takeWhile isDigit).length := by
  rw [strtoul10_digit x h0]; split <;> rfl

theorem strtoul10_local (x z : Bytes) (m : Nat) (h0 : isDigit (cat x 0) = true) (hm : (x.takeWhile isDigit).length < m) (hle : m ≤ x.length) :
    strtoul10 (x.take m ++ z) = strtoul10 x := by
  have h0' : isDigit (cat (x.take m ++ z) 0) = true := by
    rw [cat_take_append x z m 0 (by omega) hle]; exact h0
  rw [strtoul10_digit _ h0, strtoul10_digit _ h0', takeWhile_take_append isDigit x m z hm hle]

theorem strtoul10_toDec (n : Nat) (rest : Bytes) (h : n ≤ ULONG_MAX) :
    strtoul10 (toDec n ++ 36 :: rest) = { value := n, consumed := (toDec n).length, erange := false } := by
  have hall := toDec_digits n
  have htw : (toDec n ++ 36 :: rest).takeWhile isDigit = toDec n := by
    rw [List.takeWhile_append_of_pos hall]; simp [isDigit]
  obtain ⟨c, t, e⟩ := List.exists_cons_of_length_pos (toDec_length_pos n)
  have h0 : isDigit (cat (toDec n ++ 36 :: rest) 0) = true := by rw [e]; simpa [cat] using hall c (by simp [e])
  rw [strtoul10_digit _ h0, htw, toDec_value n (by unfold ULONG_MAX at h; omega), if_neg (Nat.not_lt.mpr h)]

theorem strtoul10_le (s : Bytes) : (strtoul10 s).value ≤ ULONG_MAX := by
  have hm : ∀ v : Nat, (2 ^ 64 - v) % 2 ^ 64 ≤ ULONG_MAX := by
    intro v; have : (2 ^ 64 - v) % 2 ^ 64 < 2 ^ 64 := Nat.mod_lt _ (by decide)
    unfold ULONG_MAX; omega
  unfold strtoul10
  split <;> (simp only []; split)
  all_goals first
    | (simp; done)
    | (split
       · simp
       · rename_i h; simp only [Nat.not_lt] at h; split <;> first | exact hm _ | exact h)

end Xc
