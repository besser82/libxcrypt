/-
  The alphabets generated from the tree, character by character: `a64`/`bf64` stay inside `Gen.ascii64`/`Gen.BF_itoa64`,
  whose 64 characters are decided to be harmless (passwd-safe, `./0-9A-Za-z`); `ascii_to_bin`, `BF_atoi64` and yescrypt's
  `atoi64` are their inverses, so both are injective on sextets.
-/
import Xc.Lemmas.Str
namespace Xc

theorem forall_uint8 (P : UInt8 → Prop) (h : ∀ k : Fin 256, P (UInt8.ofNat k.val)) (c : UInt8) : P c := by
  have := h ⟨c.toNat, c.toNat_lt⟩
  simpa using this

theorem forall_uint8_2 (P : UInt8 → UInt8 → Prop) (h : ∀ k : Fin 65536, P (UInt8.ofNat (k.val / 256)) (UInt8.ofNat (k.val % 256))) (a b : UInt8) : P a b := by
  have ha := a.toNat_lt; have hb := b.toNat_lt
  have := h ⟨a.toNat * 256 + b.toNat, by omega⟩
  have e1 : (a.toNat * 256 + b.toNat) / 256 = a.toNat := by omega
  have e2 : (a.toNat * 256 + b.toNat) % 256 = b.toNat := by omega
  simp only [e1, e2] at this
  simpa using this

theorem a64_mem_ascii64 (i : Nat) : a64 i ∈ Gen.ascii64 := getD_mem 0 (Nat.mod_lt i (by decide))

theorem bf64_mem_itoa64 (i : Nat) : bf64 i ∈ Gen.BF_itoa64 := getD_mem 0 (Nat.mod_lt i (by decide))

theorem ascii64_notBad : ∀ c ∈ Gen.ascii64, isBadSaltChar c = false := by decide
theorem BF_itoa64_notBad : ∀ c ∈ Gen.BF_itoa64, isBadSaltChar c = false := by decide

theorem ascii64_text : ∀ c ∈ Gen.ascii64, scryptSaltChar c = true ∧ c ≠ 36 := by decide

theorem ascii64_des : ∀ c ∈ Gen.ascii64, isDesSaltChar c = true := by decide

theorem ascii64_yAtoi : ∀ c ∈ Gen.ascii64, yAtoi c ≤ 63 := by decide

theorem ascii64_notTerm : ∀ c ∈ Gen.ascii64, c ∉ saltTerm := by decide

theorem a64_safe (i : Nat) : isBadSaltChar (a64 i) = false := ascii64_notBad _ (a64_mem_ascii64 i)

theorem bf64_safe (i : Nat) : isBadSaltChar (bf64 i) = false := BF_itoa64_notBad _ (bf64_mem_itoa64 i)

theorem a64_ne_36' (n : Nat) : a64 n ≠ 36 := (ascii64_text _ (a64_mem_ascii64 n)).2

theorem a64_ne_star (i : Nat) : a64 i ≠ 42 := by
  intro h; have := a64_safe i; rw [h] at this; exact absurd this (by decide)

theorem hexDigit_safe : ∀ k : Fin 16, isBadSaltChar (hexDigit k.val) = false := by decide

/-! ### the decoding tables invert the alphabets -/

theorem asciiToBin_a64 : ∀ k : Fin 64, asciiToBin (a64 k.val) = some k.val := by decide +kernel
theorem asciiToBin_a64' (n : Nat) : asciiToBin (a64 n) = some (n % 64) := by
  have := asciiToBin_a64 ⟨n % 64, Nat.mod_lt _ (by decide)⟩
  simpa [a64] using this

theorem asciiToBin_lt (c : UInt8) (v : Nat) : asciiToBin c = some v → v < 64 := by
  revert v c; exact forall_uint8 _ (by decide +kernel)

theorem bfAtoi_bf64 : ∀ k : Fin 64, bfAtoi (bf64 k.val) = some k.val := by decide +kernel
theorem bfAtoi_bf64_mod (n : Nat) : bfAtoi (bf64 n) = some (n % 64) := by
  have := bfAtoi_bf64 ⟨n % 64, Nat.mod_lt _ (by decide)⟩
  simpa [bf64] using this

theorem bfAtoi_lt (c : UInt8) (v : Nat) : bfAtoi c = some v → v < 64 := by
  revert v c; exact forall_uint8 _ (by decide +kernel)

theorem bfAtoi_zero : bfAtoi 0 = none := by decide

theorem yAtoi_a64 : ∀ k : Fin 64, yAtoi (a64 k.val) = k.val := by decide
theorem yAtoi_a64' (n : Nat) : yAtoi (a64 n) = n % 64 := by
  have := yAtoi_a64 ⟨n % 64, Nat.mod_lt _ (by decide)⟩
  simpa [a64] using this

theorem a64_congr {i j : Nat} (h : i % 64 = j % 64) : a64 i = a64 j := by unfold a64; rw [h]

theorem a64_inj (x y : Nat) (h : a64 x = a64 y) : x % 64 = y % 64 := by
  have := congrArg asciiToBin h; simpa [asciiToBin_a64'] using this

theorem bf64_inj (x y : Nat) (h : bf64 x = bf64 y) : x % 64 = y % 64 := by
  have := congrArg bfAtoi h; simpa [bfAtoi_bf64_mod] using this

/-- two salt characters determine the 12-bit salt of the DES-based methods -/
theorem salt_chars_inj {a b : Nat} (ha : a < 4096) (hb : b < 4096) (h0 : a64 a = a64 b) (h1 : a64 (a / 64) = a64 (b / 64)) : a = b := by
  have := a64_inj _ _ h0; have := a64_inj _ _ h1; omega

/-- text over `./0-9A-Za-z` (`scryptSaltChar` admits `$` as well) — a superset of every method's hash alphabet (ascii64, bcrypt's
    alphabet, lower-case hex) -/
def HashText (t : Bytes) : Prop := ∀ c ∈ t, scryptSaltChar c = true ∧ c ≠ 36

theorem hashText_facts : ∀ c : UInt8, scryptSaltChar c = true → c ≠ 36 → isBadSaltChar c = false ∧ c ≠ 0 :=
  forall_uint8 _ (by decide +kernel)

theorem HashText.no36 {t : Bytes} (h : HashText t) : (36 : UInt8) ∉ t := fun hm => (h 36 hm).2 rfl
theorem HashText.valid {t : Bytes} (h : HashText t) : ∀ c ∈ t, scryptSaltChar c = true := fun c hc => (h c hc).1
theorem HashText.safe {t : Bytes} (h : HashText t) : passwdSafe t = true :=
  (passwdSafe_iff t).mpr (fun c hc => (hashText_facts c (h c hc).1 (h c hc).2).1)
theorem HashText.head {t : Bytes} (h : HashText t) (hne : t ≠ []) : cat t 0 ≠ 36 ∧ cat t 0 ≠ 0 := by
  cases t with
  | nil => exact absurd rfl hne
  | cons a l =>
    have := h a (by simp)
    simp only [cat, List.getD_cons_zero]
    exact ⟨this.2, (hashText_facts a this.1 this.2).2⟩

end Xc
