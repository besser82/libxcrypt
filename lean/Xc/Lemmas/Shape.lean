/-
  C06's generic clause, method by method: a successful result is `S ++ dig` with a passwd-safe setting part `S` (fixed
  text and pieces of a setting that passed the character filter) and a digest text `dig` over the method's alphabet
  whose length is known, and the two fit below CRYPT_OUTPUT_SIZE.
-/
import Xc.Lemmas.Parse
import Xc.Lemmas.Big
namespace Xc
open List

/-- C06's generic clause; 384 is CRYPT_OUTPUT_SIZE -/
def goodHash (H : Bytes) : Prop := passwdSafe H = true ∧ 0 < H.length ∧ H.length < 384

theorem goodHash_append {S dig : Bytes} (hS : passwdSafe S = true) (hd : passwdSafe dig = true) (hne : S ≠ [])
    (hlt : S.length + dig.length < 384) : goodHash (S ++ dig) :=
  ⟨by simp [hS, hd], by have := length_pos_iff.mpr hne; simp; omega, by simp; omega⟩

theorem cryptMd5_good {D : Digests} {p s H : Bytes} (hs : checkBadSaltChars s = false)
    (h : cryptMd5 D p s = .ok H) : goodHash H := by
  obtain ⟨salt, hsalt, rfl⟩ := cryptMd5_ok.mp h
  obtain ⟨_, hl, k, rfl⟩ := scanSalt_chars hsalt
  have hsafe := passwdSafe_of_sublist (passwdSafe_of_checkBad hs) ((take_sublist k _).trans (stripPfx_sublist s Gen.md5_salt_prefix))
  have f1 : passwdSafe (Gen.md5_salt_prefix ++ [36]) = true := by decide
  have f2 : Gen.md5_salt_prefix.length = 3 ∧ Gen.MD5_SALT_LEN_MAX = 8 ∧ (Gen.perm_md5crypt.map (fun x => x.2.2.2)).sum = 22 := by decide
  refine goodHash_append (by simpa [hsafe] using f1) (permEncode_safe _ _) (by simp) ?_
  simp only [length_append, permEncode_length, length_cons, length_nil]; omega

theorem ShaKind.crypt_good {k : ShaKind} (hk : k.Good) {f : Bytes → Bytes → Nat → Bytes} {p s H : Bytes}
    (hs : checkBadSaltChars s = false) (h : k.crypt f p s = .ok H) : goodHash H := by
  obtain ⟨P, hP, rfl⟩ := ShaKind.crypt_ok.mp h
  obtain ⟨rest, hsub, hsalt, _⟩ := ShaKind.parse_ok hP
  obtain ⟨_, hl, n, e⟩ := scanSalt_chars hsalt
  have hsafe : passwdSafe P.salt = true := by
    rw [e]; exact passwdSafe_of_sublist (passwdSafe_of_checkBad hs) ((take_sublist n _).trans hsub)
  have := toDec_length_le20 P.rounds
  have := hk.fits
  refine goodHash_append ?_ (permEncode_safe _ _) ?_ ?_ <;> unfold ShaKind.emit emitSha
  · split <;> simp [hk.safe_pfx, hk.safe_rp, hsafe, toDec_safe] <;> decide
  · simp
  · rw [permEncode_length]; split <;> simp only [length_append, length_cons, length_nil] <;> omega

theorem sunStep2_bound {s : Bytes} {n p : Nat} {P : SunParsed} (h : sunStep2 s n p = .ok P) : P.saltlen + 24 ≤ 384 := by
  unfold sunStep2 at h
  simp only [] at h
  have hc : Gen.CRYPT_OUTPUT_SIZE = 384 := by decide
  have hb : Gen.SUNMD5_BARE_OUTPUT_LEN = 22 := by decide
  repeat' (split at h)
  all_goals first | (cases h; done) | (cases h; simp only [hc, hb] at *; omega)

theorem parseSunmd5_bound {s : Bytes} {P : SunParsed} (h : parseSunmd5 s = .ok P) : P.saltlen + 24 ≤ 384 := by
  unfold parseSunmd5 at h
  simp only [] at h
  repeat' (split at h)
  all_goals first | (cases h; done) | exact sunStep2_bound h

theorem sunmd5_facts : (Gen.perm_sunmd5.map (fun x => x.2.2.2)).sum = 22 := by decide

theorem cryptSunmd5_good {D : Digests} {p s H : Bytes} (hs : checkBadSaltChars s = false)
    (h : cryptSunmd5 D p s = .ok H) : goodHash H := by
  obtain ⟨P, hP, rfl⟩ := cryptSunmd5_ok.mp h
  have hb := parseSunmd5_bound hP
  rw [append_cons]
  refine goodHash_append (by simp [passwdSafe_take (passwdSafe_of_checkBad hs)]; decide) (permEncode_safe _ _) (by simp) ?_
  simp only [length_append, permEncode_length, sunmd5_facts, length_cons, length_nil, length_take]; omega

theorem cryptSha1_good {D : Digests} {p s H : Bytes} (hs : checkBadSaltChars s = false)
    (h : cryptSha1 D p s = .ok H) : goodHash H := by
  obtain ⟨P, hP, rfl⟩ := cryptSha1_ok.mp h
  obtain ⟨hc, hsub⟩ := parseSha1_shape hP
  have hfit := hc.fits
  have hsafe := passwdSafe_of_sublist (passwdSafe_of_checkBad hs) hsub
  have hm : passwdSafe sha1Magic = true ∧ sha1Magic.length = 6 ∧ Gen.SHA1_OUTPUT_SIZE = 28 ∧ Gen.CRYPT_OUTPUT_SIZE = 384 := by decide
  refine goodHash_append (by simp [hm.1, toDec_safe, hsafe]; decide) (sha1Encode_safe _) (by simp) ?_
  simp only [length_append, sha1Encode_length, length_cons, length_nil]; omega

theorem cryptNt_good {D : Digests} (hD : D.WF) {p s H : Bytes} (h : cryptNt D p s = .ok H) : goodHash H := by
  obtain ⟨_, rfl⟩ := cryptNt_ok.mp h
  exact goodHash_append (by decide) (hexLower_safe _) (by decide) (by rw [hexLower_length, hD.nt]; decide)

theorem desKey_length (p : Bytes) : (desKey p).length = 8 := by simp [desKey, padTo_length]

theorem cryptDes_good {D : Digests} (hD : D.WF) {p s H : Bytes} (h : cryptDes D p s = .ok H) : goodHash H ∧ H.length = 13 := by
  obtain ⟨salt, _, rfl⟩ := cryptDes_ok.mp h
  have hl := desEncode_length8 _ (hD.des (desKey p) salt 25)
  exact ⟨goodHash_append (by simp [a64_safe]) (desEncode_safe _) (by simp) (by rw [hl]; simp), by simp [hl]⟩

theorem cryptBig_good {d : Bool} {D : Digests} (hD : D.WF) {p s H : Bytes} (h : cryptBig d D p s = .ok H) : goodHash H := by
  rw [cryptBig_ok] at h
  split at h
  · exact (cryptDes_good hD h.2).1
  · obtain ⟨salt, _, rfl⟩ := h
    obtain ⟨hs, hl⟩ := bigSegments_spec D hD 16 p salt
    exact goodHash_append (by simp [a64_safe]) (passwdSafe_of_ascii64 hs) (by simp) (by simp; omega)

theorem cryptBsdi_good {D : Digests} (hD : D.WF) {p s H : Bytes} (hs : checkBadSaltChars s = false)
    (h : cryptBsdi D p s = .ok H) : goodHash H := by
  obtain ⟨_, h9, count, salt, _, _, rfl⟩ := cryptBsdi_ok.mp h
  refine goodHash_append (passwdSafe_take (passwdSafe_of_checkBad hs) 9) (desEncode_safe _) (ne_nil_of_length_pos (by simp; omega)) ?_
  rw [desEncode_length8 _ (hD.bsdi p salt count), length_take]; omega

theorem cryptBf_good {D : Digests} (hD : D.WF) {p s H : Bytes} (hs : checkBadSaltChars s = false)
    (h : cryptBf D p s = .ok H) : goodHash H := by
  obtain ⟨P, _, _, rfl⟩ := cryptBf_ok.mp h
  refine goodHash_append (by simp [passwdSafe_take (passwdSafe_of_checkBad hs), bf64_safe]) (bfEncode_safe _) (by simp) ?_
  rw [bfEncode_length23 _ (hD.bf P.flags P.cost P.salt p)]; simp; omega

theorem yescryptR_good {D : Digests} {p s out : Bytes} {buflen : Nat} (hs : passwdSafe s = true)
    (h : yescryptR D p s buflen = some out) : passwdSafe out = true ∧ 0 < out.length ∧ out.length < buflen := by
  obtain ⟨P, hd, _, _, rfl, hlt⟩ := yescryptR_ok.mp h
  exact ⟨by simp [passwdSafe_take hs, encode64_safe]; decide, by simp; omega, hlt⟩

theorem cryptYescryptCore_good {D : Digests} {p s H : Bytes} (hs : checkBadSaltChars s = false)
    (h : cryptYescryptCore D p s = .ok H) : goodHash H :=
  yescryptR_good (passwdSafe_of_checkBad hs) (cryptYescryptCore_ok.mp h)

theorem cryptScrypt_good {D : Digests} {p s H : Bytes} (hs : checkBadSaltChars s = false)
    (h : cryptScrypt D p s = .ok H) : goodHash H :=
  yescryptR_good (passwdSafe_of_checkBad hs) (cryptScrypt_ok.mp h).2.2

theorem cryptGost_good {D : Digests} (hD : D.WF) {p s H : Bytes} (hs : checkBadSaltChars s = false)
    (h : cryptGost D p s = .ok H) : goodHash H := by
  obtain ⟨_, _, y, k1, k2, yb, hy, hk1, hk2, hyb, hyl, rfl⟩ := cryptGost_ok.mp h
  have hg : passwdSafe ([36, 121, 36] ++ s.drop 4) = true := by simp [passwdSafe_drop (passwdSafe_of_checkBad hs)]; decide
  obtain ⟨ysafe, _, ylen⟩ := yescryptR_good hg hy
  -- the 32 decoded bytes took 43 characters behind the two `$` that `strchr` found
  have h1 := strchr_lt hk1
  have h2 := strchr_lt hk2
  have h3 := (yDecode64_ok hyb).2.2.1
  simp only [length_drop] at h1 h2 h3
  have hc : Gen.CRYPT_OUTPUT_SIZE = 384 := by decide
  have he : (encode64 (D.gostOuter p (s.take (3 + k1 + 1 + k2 + 1)) yb)).length = 43 := by
    rw [encode64_length, hD.gost]; decide
  refine goodHash_append ?_ (encode64_safe _) (by simp) ?_
  · rw [passwdSafe_append, passwdSafe_drop (passwdSafe_take ysafe (3 + k1 + 1 + k2 + 1)) 1]; decide
  · simp only [length_append, length_cons, length_nil, length_drop, length_take, he]; omega

theorem cryptMethod_good {d : Bool} {D : Digests} (hD : D.WF) {m : Method} {p s H : Bytes}
    (hs : checkBadSaltChars s = false) (h : cryptMethod d D m p s = .ok H) : goodHash H := by
  cases m <;> simp only [cryptMethod] at h
  · exact cryptYescryptCore_good hs h
  · exact cryptGost_good hD hs h
  · exact cryptScrypt_good hs h
  · exact cryptBf_good hD hs h
  · exact cryptBf_good hD hs h
  · exact cryptBf_good hD hs h
  · exact cryptBf_good hD hs h
  · exact ShaKind.crypt_good sha512Kind_good (f := D.sha512crypt) hs h
  · exact ShaKind.crypt_good sha256Kind_good (f := D.sha256crypt) hs h
  · exact cryptSha1_good hs h
  · exact cryptSunmd5_good hs h
  · exact cryptMd5_good hs h
  · exact cryptNt_good hD h
  · exact cryptBsdi_good hD hs h
  · exact cryptBig_good hD h
  · exact (cryptDes_good hD h).1

end Xc
