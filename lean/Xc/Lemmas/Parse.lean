/-
  The setting parsers of the simple methods, in both directions: what a successful parse says about its result
  (`_shape`), and that the canonical spelling of a result, followed by `$` and any text, parses back to it (`_canon`).
-/
import Xc.Lemmas.Crypt
import Xc.Lemmas.Alpha
import Xc.Lemmas.Dec
namespace Xc
open List

/-! ### the salt scan of md5crypt and sha*crypt -/

theorem scanSalt_chars {s : Bytes} {mx : Nat} {salt : Bytes} (h : scanSalt s mx = some salt) :
    (∀ x ∈ salt, x ∉ saltTerm) ∧ salt.length ≤ mx ∧ ∃ k, salt = s.take k := by
  unfold scanSalt at h; simp only [] at h
  split at h
  · cases h
  · cases h
    refine ⟨?_, by simp; omega, _, rfl⟩
    intro x hx
    have := take_takeWhile_all (fun c => !saltTerm.contains c) s (min (strcspn s saltTerm) mx) (by unfold strcspn; omega) x hx
    simpa using this

theorem scanSalt_stop (salt t : Bytes) (mx : Nat) (h1 : ∀ x ∈ salt, x ∉ saltTerm) (h2 : salt.length ≤ mx)
    (ht : t = [] ∨ ∃ tail, t = 36 :: tail) : scanSalt (salt ++ t) mx = some salt := by
  have hn : strcspn (salt ++ t) saltTerm = salt.length ∧ (cat (salt ++ t) salt.length = 36 ∨ cat (salt ++ t) salt.length = 0) := by
    rcases ht with rfl | ⟨tail, rfl⟩
    · unfold strcspn
      rw [takeWhile_append_of_pos (by intro x hx; simpa using h1 x hx)]
      exact ⟨by simp, Or.inr (by simp [cat, getD_eq_getElem?_getD])⟩
    · exact ⟨strcspn_stop salt 36 tail saltTerm h1 (by decide), Or.inl (cat_append_mid _ _ _)⟩
  unfold scanSalt
  rcases hn with ⟨hn, hc | hc⟩ <;> simp [hn, hc, Nat.min_eq_left h2]

theorem scanSalt_canon (salt tail : Bytes) (mx : Nat) (h1 : ∀ x ∈ salt, x ∉ saltTerm) (h2 : salt.length ≤ mx) :
    scanSalt (salt ++ 36 :: tail) mx = some salt :=
  scanSalt_stop salt (36 :: tail) mx h1 h2 (Or.inr ⟨tail, rfl⟩)

/-! ### sha256crypt / sha512crypt -/

theorem ShaKind.parse_ok {k : ShaKind} {s : Bytes} {P : ShaParsed} (h : k.parse s = .ok P) :
    ∃ rest, rest <+ s ∧ scanSalt rest k.saltMax = some P.salt ∧
      if P.custom = true then k.rmin ≤ P.rounds ∧ P.rounds ≤ k.rmax else P.rounds = k.dflt ∧ hasPrefix rest k.roundsPfx = false := by
  unfold ShaKind.parse parseSha at h
  simp only [] at h
  have h0 := stripPfx_sublist s k.pfx
  split at h
  · split at h; · cases h
    split at h; · cases h
    rename_i hcond
    split at h; · cases h
    rename_i salt hsalt
    cases h
    simp only [not_or, Nat.not_lt] at hcond
    exact ⟨_, ((drop_sublist _ _).trans (drop_sublist _ _)).trans h0, hsalt, by simp; omega⟩
  · rename_i hnp
    split at h; · cases h
    rename_i salt hsalt
    cases h
    exact ⟨_, h0, hsalt, by simpa using hnp⟩

/-- `fits`: the longest result — prefix, rounds field with up to 20 digits (`toDec_length_le20`) and `$`, salt, `$`, digest text —
    is shorter than CRYPT_OUTPUT_SIZE -/
structure ShaKind.Good (k : ShaKind) : Prop where
  safe_pfx : passwdSafe k.pfx = true
  safe_rp : passwdSafe k.roundsPfx = true
  no36 : (36 : UInt8) ∉ k.roundsPfx
  rmin_pos : 0 < k.rmin
  rmax_le : k.rmax ≤ ULONG_MAX
  fits : k.pfx.length + k.roundsPfx.length + 20 + 1 + k.saltMax + 1 + (k.sched.map (fun x => x.2.2.2)).sum < 384

theorem sha256Kind_good : sha256Kind.Good := ⟨by decide, by decide, by decide, by decide, by decide, by decide⟩
theorem sha512Kind_good : sha512Kind.Good := ⟨by decide, by decide, by decide, by decide, by decide, by decide⟩

/-- a parse result that its own spelling followed by `t` parses back to; `plain`: a salt that with `t` behind it begins with
    `rounds=` would be read as a rounds field -/
structure ShaCanon (k : ShaKind) (P : ShaParsed) (t : Bytes) : Prop where
  salt_chars : ∀ x ∈ P.salt, x ∉ saltTerm
  salt_len : P.salt.length ≤ k.saltMax
  custom : P.custom = true → k.rmin ≤ P.rounds ∧ P.rounds ≤ k.rmax
  plain : P.custom = false → P.rounds = k.dflt ∧ hasPrefix (P.salt ++ t) k.roundsPfx = false

theorem ShaKind.parse_shape {k : ShaKind} (h36 : (36 : UInt8) ∉ k.roundsPfx) {s : Bytes} {P : ShaParsed} (h : k.parse s = .ok P)
    (tail : Bytes) : ShaCanon k P (36 :: tail) := by
  obtain ⟨rest, _, hsalt, hc⟩ := ShaKind.parse_ok h
  obtain ⟨a, b, n, e⟩ := scanSalt_chars hsalt
  refine ⟨a, b, fun hcu => by simpa [hcu] using hc, fun hcu => ?_⟩
  rw [if_neg (by simp [hcu])] at hc
  exact ⟨hc.1, by rw [e]; exact noPrefix_take _ _ _ _ hc.2 h36⟩

/-- `ht`: the end of the string is what `crypt_gensalt` writes, `$` and more what `crypt` returns -/
theorem ShaKind.parse_canon {k : ShaKind} (hmn : 0 < k.rmin) (hmx : k.rmax ≤ ULONG_MAX) {P : ShaParsed} {t : Bytes}
    (hc : ShaCanon k P t) (ht : t = [] ∨ ∃ tail, t = 36 :: tail) :
    k.parse (k.pfx ++ (if P.custom then k.roundsPfx ++ toDec P.rounds ++ [36] else []) ++ P.salt ++ t) = .ok P := by
  unfold ShaKind.parse parseSha
  simp only []
  have hscan := scanSalt_stop _ t _ hc.salt_chars hc.salt_len ht
  cases hcu : P.custom with
  | true =>
    obtain ⟨a, b⟩ := hc.custom hcu
    have e1 : k.pfx ++ (if true = true then k.roundsPfx ++ toDec P.rounds ++ [36] else []) ++ P.salt ++ t
        = k.pfx ++ (k.roundsPfx ++ (toDec P.rounds ++ 36 :: (P.salt ++ t))) := by simp
    rw [e1, stripPfx_append, hasPrefix_append]
    simp only [if_true, drop_left]
    obtain ⟨c0, u, e, h49, h57⟩ := toDec_head P.rounds (by unfold ULONG_MAX at hmx; omega) (by omega)
    have hcat0 : cat (toDec P.rounds ++ 36 :: (P.salt ++ t)) 0 = c0 := by rw [e]; simp [cat]
    rw [hcat0, strtoul10_toDec P.rounds _ (by omega)]
    simp only [cat_append_mid]
    have hpos := toDec_length_pos P.rounds
    rw [drop_append_cons, hscan]
    have hok : ¬ ((toDec P.rounds).length = 0 ∨ (36 : UInt8) ≠ 36 ∨ P.rounds < k.rmin ∨ P.rounds > k.rmax ∨ false = true) := by
      simp only [ne_eq, not_true_eq_false, Bool.false_eq_true, false_or, or_false]; omega
    simp only [show (49 ≤ c0 && c0 ≤ 57) = true by simp [h49, h57], not_true_eq_false, if_false, hok]
    rw [← hcu]
  | false =>
    obtain ⟨a, b⟩ := hc.plain hcu
    have e1 : k.pfx ++ (if false = true then k.roundsPfx ++ toDec P.rounds ++ [36] else []) ++ P.salt ++ t
        = k.pfx ++ (P.salt ++ t) := by simp
    rw [e1, stripPfx_append, b]
    simp only [Bool.false_eq_true, if_false]
    rw [hscan]
    simp only [← a, ← hcu]

/-! ### sha1crypt -/

structure Sha1Canon (P : Sha1Parsed) : Prop where
  salt_chars : P.salt ⊆ Gen.ascii64
  salt_ne : P.salt.length ≠ 0
  iter_le : P.iterations ≤ ULONG_MAX
  fits : sha1Magic.length + (toDec P.iterations).length + 1 + P.salt.length + 1 + Gen.SHA1_OUTPUT_SIZE + 1 ≤ Gen.CRYPT_OUTPUT_SIZE

theorem parseSha1_shape {s : Bytes} {P : Sha1Parsed} (h : parseSha1 s = .ok P) : Sha1Canon P ∧ P.salt <+ s := by
  unfold parseSha1 at h
  simp only [] at h
  split at h; · cases h
  split at h; · cases h
  split at h; · cases h
  rename_i hsl
  split at h; · cases h
  rename_i hfit
  cases h
  have hsub : (s.drop sha1Magic.length).drop ((strtoul10 (s.drop sha1Magic.length)).consumed + 1) <+ s :=
    (drop_sublist _ _).trans (drop_sublist _ _)
  generalize (s.drop sha1Magic.length).drop _ = s2 at *
  have hk : strspn s2 Gen.ascii64 ≤ s2.length := takeWhile_length_le _ _
  have hl : (s2.take (strspn s2 Gen.ascii64)).length = strspn s2 Gen.ascii64 := by simp; omega
  refine ⟨⟨?_, ?_, strtoul10_le _, ?_⟩, (take_sublist _ _).trans hsub⟩
  · intro x hx
    simpa using take_takeWhile_all (fun c => Gen.ascii64.contains c) s2 _ (Nat.le_refl _) x hx
  · rw [hl]; exact fun h0 => hsl (Or.inl h0)
  · rw [hl]; dsimp only; omega

theorem Sha1Canon.parse {P : Sha1Parsed} (hc : Sha1Canon P) (tail : Bytes) :
    parseSha1 (sha1Magic ++ toDec P.iterations ++ [36] ++ P.salt ++ [36] ++ tail) = .ok P := by
  unfold parseSha1
  simp only []
  have e1 : sha1Magic ++ toDec P.iterations ++ [36] ++ P.salt ++ [36] ++ tail
      = sha1Magic ++ (toDec P.iterations ++ 36 :: (P.salt ++ 36 :: tail)) := by simp
  rw [e1, hasPrefix_append]
  simp only [drop_left, not_true_eq_false, if_false]
  rw [strtoul10_toDec P.iterations _ hc.iter_le]
  simp only [cat_append_mid, ne_eq, not_true_eq_false, if_false]
  rw [drop_append_cons, strspn_stop _ 36 tail Gen.ascii64 (fun x hx => hc.salt_chars hx) (by decide), cat_append_mid]
  have c2 : ¬ (P.salt.length = 0 ∨ ¬ (36 : UInt8) = 0 ∧ ¬ True) := by simp [hc.salt_ne]
  simp only [c2, if_false, Nat.not_lt.mpr hc.fits, take_left]

/-! ### the DES family -/

theorem parseDesSalt_canon (salt : Nat) (h : salt < 4096) (tail : Bytes) :
    parseDesSalt ([a64 salt, a64 (salt / 64)] ++ tail) = some salt := by
  unfold parseDesSalt
  simp only [cat, cons_append, getD_cons_zero, getD_cons_succ, asciiToBin_a64']
  simp; omega

theorem parseDesSalt_lt {s : Bytes} {salt : Nat} (h : parseDesSalt s = some salt) : salt < 4096 := by
  unfold parseDesSalt at h
  split at h; · cases h
  rename_i i0 h0
  split at h; · cases h
  rename_i i1 h1
  cases h
  have := asciiToBin_lt _ _ h0; have := asciiToBin_lt _ _ h1; omega

theorem dec24_take_append (s tail : Bytes) (n i : Nat) (hi : i + 3 < n) (hn : n ≤ s.length) : dec24 (s.take n ++ tail) i = dec24 s i := by
  unfold dec24
  rw [cat_take_append s tail n i (by omega) hn, cat_take_append s tail n (i + 1) (by omega) hn,
      cat_take_append s tail n (i + 2) (by omega) hn, cat_take_append s tail n (i + 3) (by omega) hn]

/-! ### bcrypt: `BF_decode` reads 22 characters, and of the last one only its two high bits -/

theorem bfDecode16_go_congr (x y : Bytes) (a b : Nat) (hab : a / 16 = b / 16) : ∀ (k i : Nat),
    (∀ j, i ≤ j → j < i + 4 * k + 1 → cat x j = cat y j) → bfAtoi (cat x (i + 4 * k + 1)) = some a →
    bfAtoi (cat y (i + 4 * k + 1)) = some b → bfDecode16.go x (k + 1) i = bfDecode16.go y (k + 1) i := by
  intro k
  induction k with
  | zero =>
    intro i h ha hb
    simp only [bfDecode16.go, if_true, h i (Nat.le_refl i) (by omega)]
    rw [show i + 4 * 0 + 1 = i + 1 from rfl] at ha hb
    rw [ha, hb]
    cases bfAtoi (cat y i) with
    | none => rfl
    | some c1 => simp only [hab]
  | succ k ih =>
    intro i h ha hb
    rw [bfDecode16.go.eq_2 x i, bfDecode16.go.eq_2 y i, if_neg (by omega), if_neg (by omega), h i (by omega) (by omega), h (i + 1) (by omega) (by omega),
      h (i + 2) (by omega) (by omega), h (i + 3) (by omega) (by omega),
      ih (i + 4) (fun j h1 h2 => h j (by omega) (by omega)) (by rwa [show i + 4 + 4 * k + 1 = i + 4 * (k + 1) + 1 by omega])
        (by rwa [show i + 4 + 4 * k + 1 = i + 4 * (k + 1) + 1 by omega])]

/-- `k + 1` groups read `4 * k + 2` characters, the last of them at `i + 4 * k + 1` -/
theorem bfDecode16_go_last (x : Bytes) : ∀ (k i : Nat) (out : Bytes), bfDecode16.go x (k + 1) i = some out →
    ∃ c, bfAtoi (cat x (i + 4 * k + 1)) = some c := by
  intro k
  induction k with
  | zero =>
    intro i out h
    simp only [bfDecode16.go, if_true] at h
    split at h
    · exact ⟨_, ‹_›⟩
    · cases h
  | succ k ih =>
    intro i out h
    rw [bfDecode16.go, if_neg (by omega)] at h
    split at h
    · obtain ⟨r, hr, _⟩ := Option.map_eq_some_iff.mp h
      have := ih (i + 4) r hr
      rwa [show i + 4 + 4 * k + 1 = i + 4 * (k + 1) + 1 by omega] at this
    · cases h

theorem parseBf_last {s : Bytes} {P : BfParsed} (h : parseBf s = some P) : ∃ c, bfAtoi (cat s 28) = some c := by
  unfold parseBf at h; simp only [] at h
  split at h; · cases h
  split at h; · cases h
  split at h; · cases h
  split at h; · cases h
  rename_i out ho
  simpa [cat_drop] using bfDecode16_go_last _ 5 0 out ho

theorem parseBf_congr (s s' : Bytes) (h : ∀ i, i < 28 → cat s' i = cat s i)
    (a b : Nat) (ha : bfAtoi (cat s' 28) = some a) (hb : bfAtoi (cat s 28) = some b) (hab : a / 16 = b / 16) :
    parseBf s' = parseBf s := by
  unfold parseBf
  simp only [h 0 (by omega), h 1 (by omega), h 2 (by omega), h 3 (by omega), h 4 (by omega), h 5 (by omega), h 6 (by omega)]
  unfold bfDecode16
  rw [bfDecode16_go_congr (s'.drop 7) (s.drop 7) a b hab 5 0 (fun i _ hi => by rw [cat_drop, cat_drop]; exact h _ (by omega))
    (by rw [cat_drop]; exact ha) (by rw [cat_drop]; exact hb)]

end Xc
