/-
  The yescrypt family's parser re-reads what it wrote.  Each field reader reads a few alphabet characters and nothing else, so the
  parameter parser reads only below the prefix length it returns (`yParams_local`); the salt string ends at the last `$`
  (`yFinish_take_sep`).  Hence `yescryptR_struct`: the result of `yescrypt_r` is `take k setting ++ "$" ++ digest`, and that part
  followed by `$` and any `$`-free text gives it again.
-/
import Xc.Lemmas.Parse
import Xc.Lemmas.Enc
namespace Xc
open List

/-! ### the field readers: `decode64_uint32`, an optional field, `decode64_uint32_fixed` -/

theorem yAtoi_zero : yAtoi 0 = 64 := by decide
theorem yAtoi_36 : yAtoi 36 = 64 := by decide

theorem yAtoi_valid_ne_zero {c : UInt8} (h : ¬ yAtoi c > 63) : c ≠ 0 := by
  intro h0; subst h0; rw [yAtoi_zero] at h; omega

theorem yAtoi_valid_ne_36 {c : UInt8} (h : ¬ yAtoi c > 63) : c ≠ 36 := by
  intro h0; subst h0; rw [yAtoi_36] at h; omega

theorem yDec32_tail_spec (s : Bytes) : ∀ (k j bits dst v : Nat), yDec32.tail s k j bits dst = some v →
    (∀ x, j ≤ x → x < j + k → ¬ yAtoi (cat s x) > 63) ∧
    ∀ s' : Bytes, (∀ x, j ≤ x → x < j + k → cat s x = cat s' x) → yDec32.tail s' k j bits dst = some v := by
  intro k
  induction k with
  | zero => intro j bits dst v h; exact ⟨fun x h1 h2 => by omega, fun s' _ => h⟩
  | succ k ih =>
    intro j bits dst v h
    simp only [yDec32.tail] at h ⊢
    split at h; · cases h
    rename_i hc
    obtain ⟨hv, hl⟩ := ih _ _ _ _ h
    refine ⟨fun x h1 h2 => if hx : x = j then hx ▸ hc else hv x (by omega) (by omega), fun s' hag => ?_⟩
    rw [← hag j (Nat.le_refl _) (by omega), if_neg hc]
    exact hl s' (fun x h1 h2 => hag x (by omega) (by omega))

theorem walk_chars (c : Nat) : ∀ fuel dst start end_ chars bits,
    chars ≤ (yDec32.walk c fuel dst start end_ chars bits).2.2.1 ∧ (yDec32.walk c fuel dst start end_ chars bits).2.2.1 ≤ chars + fuel := by
  intro fuel
  induction fuel with
  | zero => intro dst start end_ chars bits; simp [yDec32.walk]
  | succ f ih =>
    intro dst start end_ chars bits
    simp only [yDec32.walk]
    split
    · have := ih (dst + (end_ + 1 - start) * 2 ^ bits) (end_ + 1) (end_ + 1 + (62 - end_) / 2) (chars + 1) (bits + 6); omega
    · simp

theorem yDec32_spec {s : Bytes} {i min v n : Nat} (h : yDec32 s i min = some (v, n)) :
    1 ≤ n ∧ n ≤ 9 ∧ (∀ x, i ≤ x → x < i + n → ¬ yAtoi (cat s x) > 63) ∧
    ∀ s' : Bytes, (∀ x, i ≤ x → x < i + n → cat s x = cat s' x) → yDec32 s' i min = some (v, n) := by
  unfold yDec32 at h
  simp only [] at h
  split at h; · cases h
  rename_i hc
  generalize hw : yDec32.walk (yAtoi (cat s i)) 8 min 0 47 1 0 = w at h
  obtain ⟨dst, start, chars, bits⟩ := w
  have hch := walk_chars (yAtoi (cat s i)) 8 min 0 47 1 0
  rw [hw] at hch
  simp only [] at h hch
  split at h; · cases h
  rename_i v0 hv0
  simp only [Option.some.injEq, Prod.mk.injEq] at h
  obtain ⟨rfl, rfl⟩ := h
  obtain ⟨hval, hloc⟩ := yDec32_tail_spec s _ _ _ _ _ hv0
  refine ⟨hch.1, hch.2, fun x h1 h2 => if hx : x = i then hx ▸ hc else hval x (by omega) (by omega), fun s' hag => ?_⟩
  unfold yDec32
  simp only []
  rw [← hag i (Nat.le_refl _) (by omega), if_neg hc, hw]
  simp only []
  rw [hloc s' (fun x h1 h2 => hag x (by omega) (by omega))]

theorem yDec32_congr (s s' : Bytes) (i min v n : Nat) (h : yDec32 s i min = some (v, n))
    (hag : ∀ x, i ≤ x → x < i + n → cat s x = cat s' x) : yDec32 s' i min = some (v, n) :=
  (yDec32_spec h).2.2.2 s' hag

theorem yDec32_chars {s : Bytes} {i min v n : Nat} (h : yDec32 s i min = some (v, n)) :
    1 ≤ n ∧ n ≤ 9 ∧ ∀ x, i ≤ x → x < i + n → ¬ yAtoi (cat s x) > 63 :=
  ⟨(yDec32_spec h).1, (yDec32_spec h).2.1, (yDec32_spec h).2.2.1⟩

theorem yOpt_spec {s : Bytes} {cond : Bool} {i min dflt v j : Nat} (h : yOpt s cond i min dflt = some (v, j)) :
    i ≤ j ∧ j ≤ i + 9 ∧ (∀ x, i ≤ x → x < j → ¬ yAtoi (cat s x) > 63) ∧
    ∀ s' : Bytes, (∀ x, i ≤ x → x < j → cat s x = cat s' x) → yOpt s' cond i min dflt = some (v, j) := by
  unfold yOpt at h ⊢
  cases cond with
  | false =>
    simp only [Bool.false_eq_true, if_false, Option.some.injEq, Prod.mk.injEq] at h
    obtain ⟨rfl, rfl⟩ := h
    exact ⟨Nat.le_refl _, by omega, fun x h1 h2 => by omega, fun s' _ => by simp⟩
  | true =>
    simp only [if_true, Option.map_eq_some_iff] at h
    obtain ⟨⟨v0, n0⟩, hd, he⟩ := h
    simp only [Prod.mk.injEq] at he
    obtain ⟨rfl, rfl⟩ := he
    obtain ⟨_, h9, hval, hloc⟩ := yDec32_spec hd
    exact ⟨by omega, by omega, hval, fun s' hag => by simp [hloc s' hag]⟩

theorem yOpt_local {s : Bytes} {cond : Bool} {i min dflt v j : Nat} (h : yOpt s cond i min dflt = some (v, j)) :
    i ≤ j ∧ ∀ s' : Bytes, (∀ x, i ≤ x → x < j → cat s x = cat s' x) → yOpt s' cond i min dflt = some (v, j) :=
  ⟨(yOpt_spec h).1, (yOpt_spec h).2.2.2⟩

theorem yDecFixed30_congr (s s' : Bytes) (i : Nat) (h : ∀ k, k < 5 → cat s' (i + k) = cat s (i + k)) :
    yDecFixed30 s' i = yDecFixed30 s i := by
  unfold yDecFixed30
  have : (List.range 5).map (fun k => yAtoi (cat s' (i + k))) = (List.range 5).map (fun k => yAtoi (cat s (i + k))) := by
    apply List.map_congr_left
    intro k hk
    rw [h k (by simpa using hk)]
  rw [this]

theorem yDecFixed30_chars {s : Bytes} {i v : Nat} (h : yDecFixed30 s i = some v) : ∀ k, k < 5 → ¬ yAtoi (cat s (i + k)) > 63 := by
  unfold yDecFixed30 at h
  simp only [] at h
  split at h; · cases h
  rename_i hany
  simp only [List.any_eq_true, not_exists, not_and, List.mem_map, List.mem_range] at hany
  intro k hk
  simpa using hany (yAtoi (cat s (i + k))) ⟨k, hk, rfl⟩

/-! ### the parameter string -/

/-- `$7$`: `N` at 3, `r` at 4..8, `p` at 9..13 -/
theorem yParams7_spec {s : Bytes} {P : YParams} {pl : Nat} (h : yParams s = some (P, pl)) (h7 : cat s 1 = 55) :
    pl = 14 ∧ (∀ x, 3 ≤ x → x < 14 → ¬ yAtoi (cat s x) > 63) ∧
    ∀ s' : Bytes, (∀ i, i < 14 → cat s' i = cat s i) → yParams s' = some (P, pl) := by
  unfold yParams at h
  simp only [] at h
  split at h; · cases h
  rename_i hpre
  split at h; · cases h
  rename_i hnlog
  split at h
  · rename_i r p hr hp
    simp only [Option.some.injEq, Prod.mk.injEq] at h
    obtain ⟨hP, rfl⟩ := h
    refine ⟨rfl, fun x h1 h2 => ?_, fun s' hag => ?_⟩
    · by_cases h3 : x = 3
      · subst h3; omega
      · by_cases h9 : x < 9
        · have := yDecFixed30_chars hr (x - 4) (by omega); rwa [show 4 + (x - 4) = x by omega] at this
        · have := yDecFixed30_chars hp (x - 9) (by omega); rwa [show 9 + (x - 9) = x by omega] at this
    · unfold yParams
      dsimp only
      have d4 := yDecFixed30_congr s s' 4 (fun k hk => hag (4 + k) (by omega))
      have d9 := yDecFixed30_congr s s' 9 (fun k hk => hag (9 + k) (by omega))
      simp only [hag 0 (by omega), hag 1 (by omega), hag 2 (by omega), hag 3 (by omega), d4, d9, hr, hp, if_neg hpre, if_pos h7,
        if_neg hnlog, hP]
  · cases h

/-- 76: the tag, up to eight numbers of at most nine characters each, the closing `$` -/
theorem yParamsY_spec {s : Bytes} {P : YParams} {pl : Nat} (h : yParams s = some (P, pl)) (h7 : cat s 1 ≠ 55) :
    4 ≤ pl ∧ pl ≤ 76 ∧ cat s (pl - 1) = 36 ∧ (∀ x, 3 ≤ x → x < pl - 1 → ¬ yAtoi (cat s x) > 63) ∧
    ∀ s' : Bytes, (∀ i, i < pl → cat s' i = cat s i) → yParams s' = some (P, pl) := by
  have join : ∀ {a b c : Nat}, (∀ x, a ≤ x → x < b → ¬ yAtoi (cat s x) > 63) → (∀ x, b ≤ x → x < c → ¬ yAtoi (cat s x) > 63) →
      ∀ x, a ≤ x → x < c → ¬ yAtoi (cat s x) > 63 :=
    fun h1 h2 x ha hc => if hb : x < _ then h1 x ha hb else h2 x (by omega) hc
  unfold yParams at h
  dsimp only at h
  split at h; · cases h
  rename_i hpre
  split at h; · cases h
  rename_i flavor n1 hf
  split at h; · cases h
  rename_i flags hflags
  split at h; · cases h
  rename_i nlog n2 hn
  split at h; · cases h
  rename_i hnl
  split at h; · cases h
  rename_i r n3 hr
  obtain ⟨a1, b1, c1, l1⟩ := yDec32_spec hf
  obtain ⟨a2, b2, c2, l2⟩ := yDec32_spec hn
  obtain ⟨a3, b3, c3, l3⟩ := yDec32_spec hr
  split at h
  · -- short form: `$y$<flavor><N><r>$`
    rename_i h36
    simp only [Option.some.injEq, Prod.mk.injEq] at h
    obtain ⟨hP, rfl⟩ := h
    refine ⟨by omega, by omega, h36, fun x h1 h2 => join (join c1 c2) c3 x h1 (by omega), fun s' hag => ?_⟩
    have ag : ∀ x, x < 3 + n1 + n2 + n3 + 1 → cat s x = cat s' x := fun x hx => (hag x hx).symm
    unfold yParams
    dsimp only
    simp only [hag 0 (by omega), hag 1 (by omega), hag 2 (by omega), if_neg hpre, if_neg h7, hflags, if_neg hnl,
      l1 s' (fun x _ _ => ag x (by omega)), l2 s' (fun x _ _ => ag x (by omega)), l3 s' (fun x _ _ => ag x (by omega)),
      hag (3 + n1 + n2 + n3) (by omega), h36, if_true, hP]
  · -- long form with the optional fields
    rename_i hn36
    split at h; · cases h
    rename_i hv n4 hh
    split at h; · cases h
    rename_i pp i5 hp5
    split at h; · cases h
    rename_i tt i6 hp6
    split at h; · cases h
    rename_i gg i7 hp7
    split at h; · cases h
    rename_i nrom i8 hp8
    split at h; · cases h
    rename_i hnr
    split at h; · cases h
    rename_i h36
    simp only [Option.some.injEq, Prod.mk.injEq] at h
    obtain ⟨hP, rfl⟩ := h
    simp only [ne_eq, Decidable.not_not] at h36
    obtain ⟨a4, b4, c4, l4⟩ := yDec32_spec hh
    obtain ⟨a5, b5, c5, l5⟩ := yOpt_spec hp5
    obtain ⟨a6, b6, c6, l6⟩ := yOpt_spec hp6
    obtain ⟨a7, b7, c7, l7⟩ := yOpt_spec hp7
    obtain ⟨a8, b8, c8, l8⟩ := yOpt_spec hp8
    refine ⟨by omega, by omega, h36, fun x h1 h2 => join (join (join (join (join (join (join c1 c2) c3) c4) c5) c6) c7) c8 x h1 (by omega),
      fun s' hag => ?_⟩
    have ag : ∀ x, x < i8 + 1 → cat s x = cat s' x := fun x hx => (hag x hx).symm
    unfold yParams
    dsimp only
    simp only [hag 0 (by omega), hag 1 (by omega), hag 2 (by omega), if_neg hpre, if_neg h7, hflags, if_neg hnl,
      l1 s' (fun x _ _ => ag x (by omega)), l2 s' (fun x _ _ => ag x (by omega)), l3 s' (fun x _ _ => ag x (by omega)),
      hag (3 + n1 + n2 + n3) (by omega), if_neg hn36, l4 s' (fun x _ _ => ag x (by omega)),
      l5 s' (fun x _ _ => ag x (by omega)), l6 s' (fun x _ _ => ag x (by omega)), l7 s' (fun x _ _ => ag x (by omega)),
      l8 s' (fun x _ _ => ag x (by omega)), if_neg hnr, hag i8 (by omega), h36, ne_eq, not_true_eq_false, if_false, hP]

theorem yParamsY_chars {s : Bytes} {P : YParams} {pl : Nat} (h : yParams s = some (P, pl)) (h7 : cat s 1 ≠ 55) :
    4 ≤ pl ∧ pl ≤ 76 ∧ cat s (pl - 1) = 36 ∧ ∀ x, 3 ≤ x → x < pl - 1 → ¬ yAtoi (cat s x) > 63 := by
  obtain ⟨a, b, c, d, _⟩ := yParamsY_spec h h7
  exact ⟨a, b, c, d⟩

theorem yParams_local {s : Bytes} {P : YParams} {pl : Nat} (h : yParams s = some (P, pl)) :
    3 < pl ∧ pl ≤ s.length ∧ ∀ s' : Bytes, (∀ i, i < pl → cat s' i = cat s i) → yParams s' = some (P, pl) := by
  by_cases h7 : cat s 1 = 55
  · obtain ⟨rfl, hval, hloc⟩ := yParams7_spec h h7
    have : 13 < s.length := cat_ne_zero_lt (yAtoi_valid_ne_zero (hval 13 (by omega) (by omega)))
    exact ⟨by omega, this, hloc⟩
  · obtain ⟨a, _, c36, _, hloc⟩ := yParamsY_spec h h7
    have : pl - 1 < s.length := cat_ne_zero_lt (by rw [c36]; decide)
    exact ⟨by omega, by omega, hloc⟩

/-! ### the salt string -/

/-- `saltstrlen` in `yFinish` -/
def ySl (s : Bytes) (pl : Nat) : Nat := match strrchr (s.drop pl) 36 with | some k => k | none => (s.drop pl).length

def yFin (s : Bytes) (n : Nat) (P : YParams) (pl sl : Nat) : Option YParsed :=
  match (if cat s 1 = 55 then some ((s.drop pl).take sl) else yDecode64 ((s.drop pl).take sl) 64) with
  | none => none
  | some salt =>
    if pl + sl + 1 + Gen.YESCRYPT_HASH_LEN + 1 > n then none else
    some { params := P, prefixlen := pl, saltstrlen := sl, salt := salt }

theorem yFinish_eq' (s : Bytes) (n : Nat) (P : YParams) (pl : Nat) : yFinish s n P pl = yFin s n P pl (ySl s pl) := rfl

theorem ySl_le (s : Bytes) (pl : Nat) : ySl s pl ≤ (s.drop pl).length := by
  unfold ySl
  split
  · rename_i k hk; exact Nat.le_of_lt (strrchr_some_spec hk).1
  · exact Nat.le_refl _

theorem ySl_take_sep (s tail : Bytes) (pl sl : Nat) (h : pl + sl ≤ s.length) (ht : (36 : UInt8) ∉ tail) :
    ySl (s.take (pl + sl) ++ 36 :: tail) pl = sl := by
  unfold ySl
  rw [drop_take_append s _ pl _ (Nat.le_add_right _ _) h, Nat.add_sub_cancel_left, strrchr_append_stop _ _ 36 ht]
  simp; omega

theorem yFinish_inv {s : Bytes} {n pl : Nat} {P : YParams} {Q : YParsed} (h : yFinish s n P pl = some Q) :
    Q.params = P ∧ Q.prefixlen = pl ∧ Q.saltstrlen = ySl s pl ∧
    (if cat s 1 = 55 then some ((s.drop pl).take Q.saltstrlen) else yDecode64 ((s.drop pl).take Q.saltstrlen) 64) = some Q.salt ∧
    pl + Q.saltstrlen + 1 + Gen.YESCRYPT_HASH_LEN + 1 ≤ n := by
  rw [yFinish_eq'] at h
  unfold yFin at h
  split at h; · cases h
  rename_i salt hsalt
  split at h; · cases h
  rename_i hneed
  cases h
  exact ⟨rfl, rfl, rfl, hsalt, by dsimp only; omega⟩

theorem yFinish_take_sep (s : Bytes) (n pl : Nat) (P : YParams) (hpl : 1 < pl ∧ pl ≤ s.length) (tail : Bytes) (ht : (36 : UInt8) ∉ tail) :
    yFinish (s.take (pl + ySl s pl) ++ 36 :: tail) n P pl = yFinish s n P pl := by
  have hle : pl + ySl s pl ≤ s.length := by have := ySl_le s pl; simp at this; omega
  rw [yFinish_eq', yFinish_eq', ySl_take_sep s tail pl _ hle ht]
  unfold yFin
  rw [cat_take_append s _ _ 1 (by omega) hle, drop_take_append s _ pl _ (Nat.le_add_right _ _) hle, Nat.add_sub_cancel_left,
    List.take_left' (by simp; omega)]

theorem yFinish_refeed {s : Bytes} {n pl : Nat} {P : YParams} {Q : YParsed} (h : yFinish s n P pl = some Q) (hpl : 1 < pl ∧ pl ≤ s.length)
    (tail : Bytes) (ht : (36 : UInt8) ∉ tail) :
    Q.prefixlen = pl ∧ pl + Q.saltstrlen ≤ s.length ∧ yFinish (s.take (pl + Q.saltstrlen) ++ 36 :: tail) n P pl = some Q := by
  obtain ⟨_, e1, e2, _, _⟩ := yFinish_inv h
  have hle : pl + ySl s pl ≤ s.length := by have := ySl_le s pl; simp at this; omega
  rw [e2]
  exact ⟨e1, hle, (yFinish_take_sep s n pl P hpl tail ht).trans h⟩

theorem parseYescrypt_refeed {s : Bytes} {n : Nat} {Q : YParsed} (h : parseYescrypt s n = some Q) (tail : Bytes) (ht : (36 : UInt8) ∉ tail) :
    3 < Q.prefixlen ∧ Q.prefixlen + Q.saltstrlen ≤ s.length ∧
      parseYescrypt (s.take (Q.prefixlen + Q.saltstrlen) ++ 36 :: tail) n = some Q := by
  obtain ⟨P, pl, hP, hQ⟩ := parseYescrypt_ok.mp h
  obtain ⟨h3, hpl, hloc⟩ := yParams_local hP
  obtain ⟨e, hle, hF⟩ := yFinish_refeed hQ ⟨by omega, hpl⟩ tail ht
  rw [e]
  exact ⟨h3, hle, parseYescrypt_ok.mpr ⟨P, pl, hloc _ fun i hi => cat_take_append s _ _ i (by omega) hle, hF⟩⟩

theorem yescryptR_struct {D : Digests} {p s out : Bytes} {n : Nat} (h : yescryptR D p s n = some out) :
    ∃ Q hd, parseYescrypt s n = some Q ∧ D.yescrypt Q.params Q.salt p = some hd ∧
      3 < Q.prefixlen ∧ Q.prefixlen + Q.saltstrlen ≤ s.length ∧ out = s.take (Q.prefixlen + Q.saltstrlen) ++ 36 :: encode64 hd ∧
      ∀ tail, (36 : UInt8) ∉ tail → yescryptR D p (s.take (Q.prefixlen + Q.saltstrlen) ++ 36 :: tail) n = some out := by
  obtain ⟨Q, hd, hQ, hD, e, hfit⟩ := yescryptR_ok.mp h
  obtain ⟨h3, hle, _⟩ := parseYescrypt_refeed hQ [] (by simp)
  refine ⟨Q, hd, hQ, hD, h3, hle, e, fun tail ht => yescryptR_ok.mpr ⟨Q, hd, (parseYescrypt_refeed hQ tail ht).2.2, hD, ?_, hfit⟩⟩
  rw [e, List.take_left' (by simp; omega)]

theorem yescryptR_refeed {D : Digests} {p s out : Bytes} {n : Nat} (h : yescryptR D p s n = some out) :
    ∃ k dig, k ≤ s.length ∧ 3 < k ∧ out = s.take k ++ 36 :: dig ∧ (36 : UInt8) ∉ dig ∧
      ∀ tail, (36 : UInt8) ∉ tail → yescryptR D p (s.take k ++ 36 :: tail) n = some (s.take k ++ 36 :: dig) := by
  obtain ⟨Q, hd, _, _, h3, hle, e, f⟩ := yescryptR_struct h
  exact ⟨_, encode64 hd, hle, by omega, e, encode64_no36 hd, fun tail ht => e ▸ f tail ht⟩

end Xc
