/-
  What `sortBy`, `mkTable` and `mkDefault` (Xc/Config.lean) do.  The stable insertion sort commutes with `filter` when the
  order is asymmetric and negatively transitive (`sortBy_filter`); both orders of `mkTable` are, so the dispatch table of a
  selection is the table of the full selection with the rows of the disabled methods filtered out (`mkTable_eq_filter`).
-/
import Xc.Config

namespace Xc

section sort
variable {α : Type _} {lt : α → α → Bool}

theorem sortBy_cons (x : α) (xs : List α) : sortBy lt (x :: xs) = insertBy lt x (sortBy lt xs) := rfl

theorem insertBy_perm (x : α) : ∀ l, (insertBy lt x l).Perm (x :: l)
  | [] => .refl _
  | y :: ys => by
    unfold insertBy
    split
    · exact ((insertBy_perm x ys).cons y).trans (.swap x y ys)
    · exact .refl _

theorem sortBy_perm : ∀ l : List α, (sortBy lt l).Perm l
  | [] => .nil
  | x :: xs => (insertBy_perm x _).trans ((sortBy_perm xs).cons x)

theorem mem_sortBy {a : α} {l : List α} : a ∈ sortBy lt l ↔ a ∈ l := (sortBy_perm l).mem_iff

structure WeakOrder (lt : α → α → Bool) : Prop where
  asymm : ∀ {a b}, lt a b = true → lt b a = false
  negTrans : ∀ {a b c}, lt b a = false → lt c b = false → lt c a = false

theorem weakOrder_of_key (key : α → Nat) : WeakOrder fun a b => decide (key a < key b) :=
  ⟨fun h => by simp only [decide_eq_true_eq, decide_eq_false_iff_not] at h ⊢; omega,
   fun h1 h2 => by simp only [decide_eq_false_iff_not] at h1 h2 ⊢; omega⟩

abbrev Sorted (lt : α → α → Bool) (l : List α) : Prop := l.Pairwise fun a b => lt b a = false

theorem not_lt_of_head (h : WeakOrder lt) {x y : α} {ys : List α} (hs : Sorted lt (y :: ys)) (hyx : lt y x = false) :
    ∀ z ∈ y :: ys, lt z x = false := by
  intro z hz
  rcases List.mem_cons.1 hz with rfl | hz
  · exact hyx
  · exact h.negTrans hyx ((List.pairwise_cons.1 hs).1 z hz)

theorem insertBy_of_not_lt {x : α} : ∀ {s : List α}, (∀ z ∈ s, lt z x = false) → insertBy lt x s = x :: s
  | [], _ => rfl
  | y :: ys, h => by rw [insertBy, if_neg (by simp [h y (.head _)])]

theorem insertBy_sorted (h : WeakOrder lt) {x : α} : ∀ {s : List α}, Sorted lt s → Sorted lt (insertBy lt x s)
  | [], _ => List.pairwise_singleton _ _
  | y :: ys, hs => by
    cases hyx : lt y x
    · rw [insertBy_of_not_lt (not_lt_of_head h hs hyx)]
      exact List.pairwise_cons.2 ⟨not_lt_of_head h hs hyx, hs⟩
    · rw [insertBy, if_pos hyx]
      have hs := List.pairwise_cons.1 hs
      refine List.pairwise_cons.2 ⟨fun z hz => ?_, insertBy_sorted h hs.2⟩
      rcases List.mem_cons.1 ((insertBy_perm x ys).mem_iff.1 hz) with rfl | hz
      · exact h.asymm hyx
      · exact hs.1 z hz

theorem sortBy_sorted (h : WeakOrder lt) : ∀ l : List α, Sorted lt (sortBy lt l)
  | [] => .nil
  | _ :: xs => insertBy_sorted h (sortBy_sorted h xs)

theorem filter_insertBy (h : WeakOrder lt) (p : α → Bool) {x : α} : ∀ {s : List α}, Sorted lt s →
    (insertBy lt x s).filter p = if p x then insertBy lt x (s.filter p) else s.filter p
  | [], _ => by cases hp : p x <;> simp [insertBy, hp]
  | y :: ys, hs => by
    cases hyx : lt y x
    · have hz := not_lt_of_head h hs hyx
      rw [insertBy_of_not_lt hz, insertBy_of_not_lt fun z hz' => hz z (List.mem_filter.1 hz').1, List.filter_cons]
    · rw [insertBy, if_pos hyx, List.filter_cons, filter_insertBy h p (List.pairwise_cons.1 hs).2, List.filter_cons]
      cases p x <;> cases p y <;> simp [insertBy, hyx]

theorem sortBy_filter (h : WeakOrder lt) (p : α → Bool) : ∀ l : List α, sortBy lt (l.filter p) = (sortBy lt l).filter p
  | [] => rfl
  | x :: xs => by
    rw [sortBy_cons, filter_insertBy h p (sortBy_sorted h xs), ← sortBy_filter h p xs, List.filter_cons]
    split <;> rfl

end sort

theorem bytesLt_iff : ∀ {a b : Bytes}, bytesLt a b = true ↔ a < b
  | [], [] => by simp [bytesLt]
  | [], _ :: _ => by simp [bytesLt]
  | _ :: _, [] => by simp [bytesLt]
  | _ :: _, _ :: _ => by simp [bytesLt, List.cons_lt_cons_iff, bytesLt_iff]

theorem tableLt_iff {a b : ConfEntry} :
    tableLt a b = true ↔ b.pfx.length < a.pfx.length ∨ a.pfx.length = b.pfx.length ∧ a.pfx < b.pfx := by
  simp [tableLt, bytesLt_iff]

theorem weakOrder_tableLt : WeakOrder tableLt where
  asymm {a b} h := by
    rw [← Bool.not_eq_true, tableLt_iff]
    rw [tableLt_iff] at h
    rintro (h' | ⟨_, h'⟩) <;> rcases h with h | ⟨_, h⟩
    · omega
    · omega
    · omega
    · exact List.lt_asymm h h'
  negTrans {a b c} h1 h2 := by
    simp only [← Bool.not_eq_true, tableLt_iff, not_or, not_and, Nat.not_lt, List.not_lt] at *
    exact ⟨by omega, fun _ => List.le_trans (h1.2 (by omega)) (h2.2 (by omega))⟩

def ConfEntry.row (e : ConfEntry) : HashEntry :=
  { pfx := e.pfx, plen := e.pfx.length, crypt := e.name, gensalt := e.name, nrbytes := e.nrbytes, strong := e.strong }

theorem mkTable_eq (conf : List ConfEntry) (en : Method → Bool) :
    mkTable conf en =
      (sortBy tableLt (sortBy (fun a b => decide (a.name.nameRank < b.name.nameRank)) (conf.filter fun e => en e.name))).map
        ConfEntry.row := rfl

theorem mem_mkTable {conf : List ConfEntry} {en : Method → Bool} {h : HashEntry} :
    h ∈ mkTable conf en ↔ ∃ e ∈ conf, en e.name = true ∧ e.row = h := by
  simp only [mkTable_eq, List.mem_map, mem_sortBy, List.mem_filter, and_assoc]

theorem length_mkTable (conf : List ConfEntry) (en : Method → Bool) :
    (mkTable conf en).length = (conf.filter fun e => en e.name).length := by
  rw [mkTable_eq, List.length_map, (sortBy_perm _).length_eq, (sortBy_perm _).length_eq]

theorem mkTable_eq_filter (conf : List ConfEntry) (en : Method → Bool) :
    mkTable conf en = (mkTable conf fun _ => true).filter fun r => en r.crypt := by
  rw [mkTable_eq, mkTable_eq, List.filter_eq_self.2 fun _ _ => rfl, List.filter_map, sortBy_filter (weakOrder_of_key _),
    sortBy_filter weakOrder_tableLt]
  rfl

theorem mkDefault_some {conf : List ConfEntry} {en : Method → Bool} {p : Bytes} (h : mkDefault conf en = some p) :
    ∃ e ∈ conf, e.dflt = true ∧ en e.name = true ∧ e.pfx = p := by
  simp only [mkDefault, Option.map_eq_some_iff] at h
  obtain ⟨e, he, rfl⟩ := h
  have hm := List.mem_filter.1 (List.mem_of_find?_eq_some he)
  have hen := List.find?_some he
  exact ⟨e, hm.1, hm.2, hen, rfl⟩

theorem mkDefault_none {conf : List ConfEntry} {en : Method → Bool} (h : mkDefault conf en = none) :
    ∀ e ∈ conf, e.dflt = true → en e.name = false := by
  simp only [mkDefault, Option.map_eq_none_iff, List.find?_eq_none, List.mem_filter] at h
  exact fun e he hd => by simpa using h e ⟨he, hd⟩

theorem subsetOf_eq_testBit (n : Nat) (m : Method) : subsetOf n m = n.testBit m.nameRank := by
  rw [Nat.testBit_eq_decide_div_mod_eq]
  rfl

end Xc
