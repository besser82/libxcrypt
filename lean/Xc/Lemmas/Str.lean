/-
  The C-string vocabulary of `Xc/Base.lean` (`cat`, `hasPrefix`, `strcspn`, `strspn`, `strchr`, `strrchr`, `passwdSafe`) and
  `stripPfx` on strings of the two forms the front-ends meet: `a ++ c :: b` (a field and the character that ends it) and
  `take n s ++ tail` (a setting cut after its salt, with other text behind).
-/
import Xc.Crypt
namespace Xc
open List

/-! ### lists -/

theorem getD_mem {α} {l : List α} {i : Nat} (d : α) (h : i < l.length) : l.getD i d ∈ l := by
  simp [getD_eq_getElem?_getD, getElem?_eq_getElem h]

theorem takeWhile_length_le {α} (p : α → Bool) (l : List α) : (l.takeWhile p).length ≤ l.length :=
  (takeWhile_sublist p).length_le

theorem take_takeWhile_all {α} (p : α → Bool) : ∀ (l : List α) (k : Nat), k ≤ (l.takeWhile p).length → ∀ c ∈ l.take k, p c = true := by
  intro l k hk c hc
  have e : l.take k = (l.takeWhile p).take k := by
    conv => lhs; rw [← takeWhile_append_dropWhile (p := p) (l := l), take_append_of_le_length hk]
  rw [e] at hc
  exact all_eq_true.mp all_takeWhile c (mem_of_mem_take hc)

theorem takeWhile_take_append {α} (p : α → Bool) : ∀ (l : List α) (m : Nat) (z : List α),
    (l.takeWhile p).length < m → m ≤ l.length → (l.take m ++ z).takeWhile p = l.takeWhile p := by
  intro l
  induction l with
  | nil => intro m z h1 h2; simp at h2; omega
  | cons x xs ih =>
    intro m z h1 h2
    cases m with
    | zero => omega
    | succ m =>
      simp only [List.take_succ_cons, List.cons_append, List.takeWhile_cons]
      by_cases hx : p x = true
      · simp only [hx, if_true]
        simp only [List.takeWhile_cons, hx, if_true, List.length_cons] at h1
        rw [ih m z (by omega) (by simpa using h2)]
      · simp [hx]

theorem takeWhile_lt_of_stop {α} (p : α → Bool) (l : List α) (i : Nat) (hi : i < l.length) (hs : p (l[i]) = false)
    : (l.takeWhile p).length ≤ i := by
  rw [List.takeWhile_eq_take_findIdx_not, List.length_take]
  exact Nat.le_trans (Nat.min_le_left _ _) (Nat.le_of_not_lt fun hlt => by simpa [hs] using List.not_of_lt_findIdx hlt)

theorem takeWhile_eq_take (p : UInt8 → Bool) (l : Bytes) : l.takeWhile p = l.take (l.takeWhile p).length := by
  rw [List.takeWhile_eq_take_findIdx_not, List.length_take, Nat.min_eq_left List.findIdx_le_length]

theorem prefix_take_append {α} {pfx s : List α} (x : List α) (n : Nat) (h : pfx <+: s) (hn : pfx.length ≤ n) : pfx <+: s.take n ++ x :=
  (prefix_take_iff.mpr ⟨h, hn⟩).trans (prefix_append _ _)

theorem drop_append_cons {α} (a : List α) (c : α) (b : List α) : (a ++ c :: b).drop (a.length + 1) = b := by
  simp [drop_append]

/-! ### `cat` -/

theorem cat_eq_getElem {l : Bytes} {i : Nat} (h : i < l.length) : cat l i = l[i] := by
  simp [cat, List.getD_eq_getElem?_getD, h]

theorem cat_mem {l : Bytes} {i : Nat} (h : i < l.length) : cat l i ∈ l := by
  rw [cat_eq_getElem h]; exact List.getElem_mem h

theorem cat_ne_zero_lt {l : Bytes} {i : Nat} (h : cat l i ≠ 0) : i < l.length := by
  apply Decidable.byContradiction
  intro hn
  exact h (by simp [cat, getD_eq_getElem?_getD, getElem?_eq_none (Nat.le_of_not_lt hn)])

theorem cat_append_left {a : Bytes} (b : Bytes) {i : Nat} (h : i < a.length) : cat (a ++ b) i = cat a i := by
  simp [cat, getD_eq_getElem?_getD, getElem?_append_left h]

theorem cat_append_mid (a : Bytes) (c : UInt8) (b : Bytes) : cat (a ++ c :: b) a.length = c := by simp [cat]

theorem cat_append_right (a b : Bytes) (i : Nat) (h : a.length ≤ i) : cat (a ++ b) i = cat b (i - a.length) := by
  simp [cat, List.getD_eq_getElem?_getD, List.getElem?_append_right h]

theorem cat_take (l : Bytes) (n i : Nat) (h : i < n) : cat (l.take n) i = cat l i := by
  simp [cat, List.getD_eq_getElem?_getD, List.getElem?_take_of_lt h]

theorem cat_drop (l : Bytes) (n i : Nat) : cat (l.drop n) i = cat l (n + i) := by
  simp [cat, getD_eq_getElem?_getD]

theorem cat_take_append (s tail : Bytes) (n i : Nat) (hi : i < n) (hn : n ≤ s.length) : cat (s.take n ++ tail) i = cat s i := by
  rw [cat_append_left _ (by simp; omega), cat_take _ _ _ hi]

theorem take_succ_of_cat (l : Bytes) (k : Nat) (c : UInt8) (hc : c ≠ 0) (h : cat l k = c) : l.take (k + 1) = l.take k ++ [c] := by
  have hk : k < l.length := cat_ne_zero_lt (by rw [h]; exact hc)
  rw [List.take_add_one, List.getElem?_eq_getElem hk, Option.toList_some, ← cat_eq_getElem hk, h]

theorem drop_take_append (s z : Bytes) (a n : Nat) (ha : a ≤ n) (hn : n ≤ s.length) : (s.take n ++ z).drop a = (s.drop a).take (n - a) ++ z := by
  rw [List.drop_append_of_le_length (by rw [List.length_take]; omega), List.drop_take]

/-! ### `hasPrefix`, `stripPfx` -/

theorem hasPrefix_iff {s p : Bytes} : hasPrefix s p = true ↔ p <+: s := isPrefixOf_iff_prefix

theorem hasPrefix_append (p x : Bytes) : hasPrefix (p ++ x) p = true := by simp [hasPrefix]

theorem stripPfx_append (p x : Bytes) : stripPfx (p ++ x) p = x := by simp [stripPfx, hasPrefix_append]

theorem stripPfx_sublist (s pfx : Bytes) : stripPfx s pfx <+ s := by
  unfold stripPfx; split
  · exact drop_sublist _ _
  · exact Sublist.refl _

theorem hasPrefix_split {s pfx : Bytes} (h : hasPrefix s pfx = true) : s = pfx ++ s.drop pfx.length := by
  obtain ⟨t, rfl⟩ := hasPrefix_iff.mp h
  simp

theorem hasPrefix_cat {s pfx : Bytes} (h : hasPrefix s pfx = true) (i : Nat) (hi : i < pfx.length) : cat s i = cat pfx i := by
  rw [hasPrefix_split h, cat_append_left _ hi]

theorem hasPrefix_take_append {s pfx : Bytes} (h : hasPrefix s pfx = true) (x : Bytes) (n : Nat) (hn : pfx.length ≤ n) :
    hasPrefix (s.take n ++ x) pfx = true :=
  hasPrefix_iff.mpr (prefix_take_append x n (hasPrefix_iff.mp h) hn)

theorem noPrefix_take (s rp tail : Bytes) (k : Nat) (h : hasPrefix s rp = false) (h36 : (36 : UInt8) ∉ rp) :
    hasPrefix (s.take k ++ 36 :: tail) rp = false := by
  rw [← Bool.not_eq_true, hasPrefix_iff] at h ⊢
  intro hh
  -- `rp` ends inside `take k s` (then it is a prefix of `s`) or contains the `$` behind it
  rcases prefix_or_prefix_of_prefix hh (prefix_append (s.take k) (36 :: tail)) with hp | ⟨t, ht⟩
  · exact h (hp.trans (take_prefix k s))
  · rw [← ht, prefix_append_right_inj] at hh
    cases t with
    | nil => exact h (by rw [append_nil] at ht; rw [← ht]; exact take_prefix k s)
    | cons c t => exact h36 (by rw [← ht]; simp [(cons_prefix_cons.mp hh).1])

/-! ### `strcspn`, `strspn`, `strchr` -/

theorem strcspn_stop (a : Bytes) (c : UInt8) (b T : Bytes) (ha : ∀ x ∈ a, x ∉ T) (hc : c ∈ T) :
    strcspn (a ++ c :: b) T = a.length := by
  unfold strcspn
  rw [takeWhile_append_of_pos (by intro x hx; simpa using ha x hx)]
  simp [hc]

theorem strspn_stop (a : Bytes) (c : UInt8) (b T : Bytes) (ha : ∀ x ∈ a, x ∈ T) (hc : c ∉ T) :
    strspn (a ++ c :: b) T = a.length := by
  unfold strspn
  rw [takeWhile_append_of_pos (by intro x hx; simpa using ha x hx)]
  simp [hc]

theorem strchr_lt {s : Bytes} {c : UInt8} {k : Nat} (h : strchr s c = some k) : k < s.length := by
  unfold strchr at h; simp only [] at h
  split at h
  · cases h; assumption
  · cases h

theorem strchr_spec : ∀ (l : Bytes) (c : UInt8) (i : Nat), i < l.length → cat l i = c → (∀ j, j < i → cat l j ≠ c) → strchr l c = some i := by
  intro l c i hi hc hb
  have key : (l.takeWhile (· != c)).length = i := by
    apply Nat.le_antisymm
    · exact takeWhile_lt_of_stop _ l i hi (by rw [← cat_eq_getElem hi, hc]; simp)
    · rw [List.takeWhile_eq_take_findIdx_not, List.length_take]
      refine Nat.le_min.mpr ⟨Nat.le_of_not_lt fun hlt => ?_, Nat.le_of_lt hi⟩
      have hj := List.findIdx_getElem (w := Nat.lt_trans hlt hi) (p := fun a => !(a != c)) (xs := l)
      exact hb _ hlt (by rw [cat_eq_getElem (Nat.lt_trans hlt hi)]; simpa using hj)
  unfold strchr
  simp only []
  rw [key, if_pos hi]

/-! ### `strrchr` -/

theorem strrchr_go_notin (c : UInt8) : ∀ (l : Bytes) (i : Nat) (best : Option Nat), c ∉ l → strrchr.go c l i best = best := by
  intro l
  induction l with
  | nil => intro i best _; rfl
  | cons x xs ih =>
    intro i best h
    simp only [List.mem_cons, not_or] at h
    simp only [strrchr.go]
    have : (x == c) = false := by simpa using fun e => h.1 e.symm
    rw [this]; exact ih _ _ h.2

theorem strrchr_go_append (c : UInt8) : ∀ (a b : Bytes) (i : Nat) (best : Option Nat), c ∉ b →
    strrchr.go c (a ++ c :: b) i best = some (i + a.length) := by
  intro a
  induction a with
  | nil => intro b i best h; simp [strrchr.go, strrchr_go_notin c b _ _ h]
  | cons x xs ih =>
    intro b i best h
    simp only [List.cons_append, strrchr.go, List.length_cons]
    rw [ih b (i + 1) _ h]; congr 1; omega

theorem strrchr_append_stop (a b : Bytes) (c : UInt8) (h : c ∉ b) : strrchr (a ++ c :: b) c = some a.length := by
  unfold strrchr; rw [strrchr_go_append c a b 0 none h]; simp

theorem strrchr_cases (l : Bytes) (c : UInt8) :
    (c ∉ l ∧ strrchr l c = none) ∨ ∃ a b, l = a ++ c :: b ∧ c ∉ b ∧ strrchr l c = some a.length := by
  by_cases hm : c ∈ l
  · obtain ⟨b, a, e, hb⟩ := List.eq_append_cons_of_mem (List.mem_reverse.mpr hm)
    have e' : l = a.reverse ++ c :: b.reverse := by simpa using congrArg List.reverse e
    exact .inr ⟨_, _, e', by simpa using hb, e' ▸ strrchr_append_stop _ _ c (by simpa using hb)⟩
  · exact .inl ⟨hm, strrchr_go_notin c l 0 none hm⟩

theorem strrchr_some_spec {l : Bytes} {c : UInt8} {k : Nat} (h : strrchr l c = some k) :
    k < l.length ∧ cat l k = c ∧ c ∉ l.drop (k + 1) := by
  rcases strrchr_cases l c with ⟨_, e⟩ | ⟨a, b, rfl, hb, e⟩
  · rw [e] at h; cases h
  · rw [e] at h; cases h
    exact ⟨by simp, cat_append_mid a c b, by simpa using hb⟩

theorem strrchr_none_spec {l : Bytes} {c : UInt8} (h : strrchr l c = none) : c ∉ l := by
  rcases strrchr_cases l c with ⟨hm, _⟩ | ⟨a, b, _, _, e⟩
  · exact hm
  · rw [e] at h; cases h

theorem strrchr_eq_some {l : Bytes} {c : UInt8} {k : Nat} (hk : k < l.length) (hc : cat l k = c) (hn : c ∉ l.drop (k + 1)) :
    strrchr l c = some k := by
  subst hc
  rw [cat_eq_getElem hk] at hn ⊢
  have := strrchr_append_stop (l.take k) (l.drop (k + 1)) _ hn
  rwa [← List.drop_eq_getElem_cons hk, List.take_append_drop, List.length_take, Nat.min_eq_left (Nat.le_of_lt hk)] at this

/-! ### `passwdSafe` -/

theorem passwdSafe_iff (s : Bytes) : passwdSafe s = true ↔ ∀ c ∈ s, isBadSaltChar c = false := by
  simp [passwdSafe]

theorem checkBad_eq (s : Bytes) : checkBadSaltChars s = !passwdSafe s := by
  simp [checkBadSaltChars, passwdSafe, not_all_eq_any_not]

theorem passwdSafe_of_checkBad {s : Bytes} (h : checkBadSaltChars s = false) : passwdSafe s = true := by
  rw [checkBad_eq] at h; simpa using h

@[simp] theorem passwdSafe_append (a b : Bytes) : passwdSafe (a ++ b) = (passwdSafe a && passwdSafe b) := by
  simp [passwdSafe]

@[simp] theorem passwdSafe_nil : passwdSafe [] = true := rfl

@[simp] theorem passwdSafe_cons (a : UInt8) (b : Bytes) : passwdSafe (a :: b) = (!isBadSaltChar a && passwdSafe b) := by
  simp [passwdSafe]

theorem passwdSafe_of_sublist {s t : Bytes} (h : passwdSafe s = true) (hs : t <+ s) : passwdSafe t = true := by
  rw [passwdSafe_iff] at *; exact fun c hc => h c (hs.subset hc)

theorem passwdSafe_take {s : Bytes} (h : passwdSafe s = true) (n : Nat) : passwdSafe (s.take n) = true :=
  passwdSafe_of_sublist h (take_sublist n s)

theorem passwdSafe_drop {s : Bytes} (h : passwdSafe s = true) (n : Nat) : passwdSafe (s.drop n) = true :=
  passwdSafe_of_sublist h (drop_sublist n s)

end Xc
