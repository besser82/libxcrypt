/-
  sunmd5: the head of the parser (tag, separator, optional `rounds=N$`) reads the setting only below the index where the salt
  starts; the salt part is determined by the salt run, the `$` that closes it and the one character after that `$`.  Hence the
  parse of `take saltlen setting ++ "$" ++ text` is the parse of the setting, and the round trip of crypt_sunmd5_rn (C01).
-/
import Xc.Lemmas.Shape
namespace Xc
open List

theorem strspn_drop_le (s T : Bytes) (p : Nat) (hp : p ≤ s.length) : p + strspn (s.drop p) T ≤ s.length := by
  have := takeWhile_length_le (fun c => T.contains c) (s.drop p)
  rw [List.length_drop] at this
  unfold strspn; omega

/-- the first character of `X` decides whether the `$` is counted into the salt (the Solaris quirk) -/
theorem sunStep2_take_sep (s X : Bytes) (n p : Nat) (hp : p ≤ s.length) :
    sunStep2 (s.take (p + strspn (s.drop p) Gen.ascii64) ++ 36 :: X) n p =
      if Gen.CRYPT_OUTPUT_SIZE <
          p + strspn (s.drop p) Gen.ascii64 + (if cat X 0 = 36 ∨ cat X 0 = 0 then 1 else 0) + Gen.SUNMD5_BARE_OUTPUT_LEN + 2 then
        .error .ERANGE
      else .ok { nrounds := n, saltlen := p + strspn (s.drop p) Gen.ascii64 + (if cat X 0 = 36 ∨ cat X 0 = 0 then 1 else 0) } := by
  have hkl := strspn_drop_le s Gen.ascii64 p hp
  generalize hk : strspn (s.drop p) Gen.ascii64 = k at hkl
  have hrun : ∀ x ∈ (s.drop p).take k, x ∈ Gen.ascii64 := fun x hx => by
    simpa using take_takeWhile_all (fun c => Gen.ascii64.contains c) (s.drop p) k (by rw [← hk]; exact Nat.le_refl _) x hx
  have hl : (s.take (p + k)).length = p + k := by rw [List.length_take]; omega
  have c1 : cat (s.take (p + k) ++ 36 :: X) (p + k) = 36 := by have := cat_append_mid (s.take (p + k)) 36 X; rwa [hl] at this
  have c2 : cat (s.take (p + k) ++ 36 :: X) (p + k + 1) = cat X 0 := by
    rw [cat_append_right _ _ _ (by omega), hl, show p + k + 1 - (p + k) = 1 by omega]; rfl
  unfold sunStep2
  dsimp only
  rw [drop_take_append s _ p _ (Nat.le_add_right _ _) hkl, Nat.add_sub_cancel_left, strspn_stop _ 36 _ Gen.ascii64 hrun (by decide),
    List.length_take, List.length_drop, Nat.min_eq_left (by omega), c1, c2]
  by_cases hX : cat X 0 = 36 ∨ cat X 0 = 0 <;> simp [hX]

theorem sunStep2_refeed {s : Bytes} {n p : Nat} {P : SunParsed} (h : sunStep2 s n p = .ok P) (hp : p ≤ s.length) (tail : Bytes)
    (ht : cat tail 0 ≠ 36 ∧ cat tail 0 ≠ 0) :
    p ≤ P.saltlen ∧ P.saltlen ≤ s.length ∧ sunStep2 (s.take P.saltlen ++ 36 :: tail) n p = .ok P := by
  have key := fun X => sunStep2_take_sep s X n p hp
  have hql := strspn_drop_le s Gen.ascii64 p hp
  have hpq : p ≤ p + strspn (s.drop p) Gen.ascii64 := Nat.le_add_right _ _
  unfold sunStep2 at h
  dsimp only at h
  generalize p + strspn (s.drop p) Gen.ascii64 = q at h key hql hpq
  split at h; · cases h
  by_cases hb : (cat s q == 36 && (cat s (q + 1) == 36 || cat s (q + 1) == 0)) = true
  · -- the `$` after the salt is part of the salt: the kept part ends with it, and the separator is a second `$`
    simp only [hb, if_true] at h
    split at h; · cases h
    rename_i hfit
    cases h
    have h36 : cat s q = 36 := by simp only [Bool.and_eq_true, beq_iff_eq] at hb; exact hb.1
    have hlt : q < s.length := cat_ne_zero_lt (by rw [h36]; decide)
    refine ⟨Nat.le_succ_of_le hpq, hlt, ?_⟩
    dsimp only
    rw [take_succ_of_cat s q 36 (by decide) h36, List.append_assoc, List.singleton_append, key]
    simp [cat, hfit]
  · -- the salt ends before the `$` (or at the end of the string)
    simp only [hb, Bool.false_eq_true, if_false] at h
    split at h; · cases h
    rename_i hfit
    cases h
    refine ⟨hpq, hql, ?_⟩
    dsimp only
    rw [key]
    simp [ht.1, ht.2, hfit]

theorem permEncode_head (d : Bytes) : cat (permEncode Gen.perm_sunmd5 d) 0 ≠ 36 ∧ cat (permEncode Gen.perm_sunmd5 d) 0 ≠ 0 := by
  have hm : cat (permEncode Gen.perm_sunmd5 d) 0 ∈ permEncode Gen.perm_sunmd5 d :=
    cat_mem (by rw [permEncode_length, sunmd5_facts]; decide)
  refine ⟨fun e => permEncode_no36 _ d (e ▸ hm), fun e => ?_⟩
  have := (passwdSafe_iff _).mp (permEncode_safe Gen.perm_sunmd5 d) _ hm
  rw [e] at this; exact absurd this (by decide)

theorem parseSunmd5_head {s : Bytes} {P : SunParsed} (h : parseSunmd5 s = .ok P) :
    ∃ nr p, 5 ≤ p ∧ p ≤ s.length ∧ sunStep2 s nr p = .ok P ∧
      ∀ (L : Nat) (z : Bytes), p ≤ L → L ≤ s.length → parseSunmd5 (s.take L ++ 36 :: z) = sunStep2 (s.take L ++ 36 :: z) nr p := by
  have hpl : Gen.SUNMD5_PREFIX_LEN = 4 := rfl
  have hre : roundsEq.length = 7 := rfl
  unfold parseSunmd5 at h
  dsimp only at h
  split at h; · cases h
  rename_i hhead
  simp only [not_or, Decidable.not_not, not_and, Bool.not_eq_true, Bool.not_eq_false] at hhead
  obtain ⟨hpre, hsep⟩ := hhead
  have hs : ¬ (cat s 4 ≠ 36 ∧ cat s 4 ≠ 44) := fun hh => hh.2 (hsep hh.1)
  have hlen5 : 5 ≤ s.length := by
    have : cat s 4 ≠ 0 := fun h0 => hs (by rw [h0]; decide)
    have := cat_ne_zero_lt this; omega
  have common : ∀ (L : Nat) (z : Bytes), 5 ≤ L → L ≤ s.length →
      hasPrefix (s.take L ++ 36 :: z) Gen.SUNMD5_PREFIX = true ∧ cat (s.take L ++ 36 :: z) 4 = cat s 4 ∧
      (s.take L ++ 36 :: z).drop 5 = (s.drop 5).take (L - 5) ++ 36 :: z := fun L z h5 hL =>
    ⟨hasPrefix_take_append hpre _ L (Nat.le_trans (by decide) h5), cat_take_append s _ L 4 (by omega) hL,
      drop_take_append s _ 5 L h5 hL⟩
  split at h
  · -- explicit rounds
    rename_i hrp
    split at h; · cases h
    rename_i hc0
    split at h; · cases h
    rename_i hrc
    split at h; · cases h
    rename_i h36
    simp only [ne_eq, Decidable.not_not] at h36
    simp only [hpl, hre] at hrp hc0 hrc h36 h
    have hdig : isDigit (cat (s.drop (4 + 1 + 7)) 0) = true := by
      rw [cat_drop]
      have : (49 ≤ cat s (4 + 1 + 7) && cat s (4 + 1 + 7) ≤ 57) = true := by simpa using hc0
      simp only [isDigit, Bool.and_eq_true, decide_eq_true_eq] at this ⊢
      exact ⟨Nat.le_trans (by decide) this.1, this.2⟩
    have hcn := strtoul10_consumed _ hdig
    have hp2 : 4 + 1 + 7 + (strtoul10 (s.drop (4 + 1 + 7))).consumed < s.length := cat_ne_zero_lt (by rw [h36]; decide)
    refine ⟨_, _, by omega, hp2, h, fun L z hpL hL => ?_⟩
    obtain ⟨t1, t2, t3⟩ := common L z (by omega) hL
    have hag : ∀ i, i < L → cat (s.take L ++ 36 :: z) i = cat s i := fun i hi => cat_take_append s _ L i hi hL
    have hst : strtoul10 ((s.take L ++ 36 :: z).drop (4 + 1 + 7)) = strtoul10 (s.drop (4 + 1 + 7)) := by
      rw [drop_take_append s _ _ L (by omega) hL]
      exact strtoul10_local _ _ _ hdig (by omega) (by rw [List.length_drop]; omega)
    unfold parseSunmd5
    dsimp only
    rw [hpl, hre, t1, t2, t3, hasPrefix_take_append hrp _ _ (by rw [hre]; omega), hag _ (by omega : 4 + 1 + 7 < L), hst,
      hag _ (by omega : 4 + 1 + 7 + (strtoul10 (s.drop (4 + 1 + 7))).consumed < L)]
    simp only [not_true_eq_false, false_or, if_neg hs, if_true, if_neg hc0, if_neg hrc, h36, ne_eq, if_false]
  · rename_i hrp
    rw [hpl] at hrp h
    refine ⟨_, _, Nat.le_refl _, hlen5, h, fun L z hpL hL => ?_⟩
    obtain ⟨t1, t2, t3⟩ := common L z hpL hL
    unfold parseSunmd5
    dsimp only
    rw [hpl, t1, t2, t3, noPrefix_take _ _ _ _ (by simpa using hrp) (by decide)]
    simp only [not_true_eq_false, false_or, if_neg hs, Bool.false_eq_true, if_false]

theorem parseSunmd5_refeed {s : Bytes} {P : SunParsed} (h : parseSunmd5 s = .ok P) (tail : Bytes)
    (ht : cat tail 0 ≠ 36 ∧ cat tail 0 ≠ 0) :
    5 ≤ P.saltlen ∧ P.saltlen ≤ s.length ∧ parseSunmd5 (s.take P.saltlen ++ 36 :: tail) = .ok P := by
  obtain ⟨nr, p, h5, hp, h2, hloc⟩ := parseSunmd5_head h
  obtain ⟨a, b, c⟩ := sunStep2_refeed h2 hp tail ht
  exact ⟨by omega, b, (hloc _ tail a b).trans c⟩

theorem cryptSunmd5_refeed {D : Digests} {p s H : Bytes} (h : cryptSunmd5 D p s = .ok H) :
    ∃ P, parseSunmd5 s = .ok P ∧ 5 ≤ P.saltlen ∧ P.saltlen ≤ s.length ∧
      H = s.take P.saltlen ++ 36 :: permEncode Gen.perm_sunmd5 (D.sunmd5 p (s.take P.saltlen) P.nrounds) ∧
      ∀ t : Bytes, cat t 0 ≠ 36 → cat t 0 ≠ 0 → cryptSunmd5 D p (s.take P.saltlen ++ 36 :: t) = .ok H := by
  obtain ⟨P, hP, e⟩ := cryptSunmd5_ok.mp h
  obtain ⟨h5, hl, _⟩ := parseSunmd5_refeed hP _ (permEncode_head (D.sunmd5 p (s.take P.saltlen) P.nrounds))
  refine ⟨P, hP, h5, hl, e, fun t h1 h2 => cryptSunmd5_ok.mpr ⟨P, (parseSunmd5_refeed hP t ⟨h1, h2⟩).2.2, ?_⟩⟩
  rw [e, List.take_left' (by rw [List.length_take]; omega)]

theorem cryptSunmd5_fix (D : Digests) (p s H : Bytes) (h : cryptSunmd5 D p s = .ok H) : cryptSunmd5 D p H = .ok H := by
  obtain ⟨P, _, _, _, e, f⟩ := cryptSunmd5_refeed h
  have := f _ (permEncode_head (D.sunmd5 p (s.take P.saltlen) P.nrounds)).1 (permEncode_head _).2
  rwa [← e] at this

end Xc
