/-
  The specification of the entry points relative to the pure function
  `cryptAnswer`: for an ARBITRARY prior object state `d`.
-/
import Xc.Api
import Xc.Lemmas.Shape
namespace Xc

theorem goodHash_nostar {H : Bytes} (h : goodHash H) : ∃ c rest, H = c :: rest ∧ c ≠ 42 := by
  obtain ⟨hs, hl, _⟩ := h
  match H, hl with
  | c :: rest, _ =>
    refine ⟨c, rest, rfl, ?_⟩
    simp only [passwdSafe_cons, Bool.and_eq_true, Bool.not_eq_true'] at hs
    intro hc; rw [hc] at hs; exact absurd hs.1 (by decide)

theorem failureToken_big (setting : Option Bytes) (size : Int) (h : 3 ≤ size) :
    ∃ c, failureToken setting size = some [42, c] ∧ (c = 48 ∨ c = 49) := by
  unfold failureToken
  rw [if_pos (by omega)]
  cases setting with
  | none => exact ⟨48, rfl, Or.inl rfl⟩
  | some s =>
    simp only []
    split
    · exact ⟨49, rfl, Or.inr rfl⟩
    · exact ⟨48, rfl, Or.inl rfl⟩

/-- "*1" is the token for settings that begin with "*0" -/
theorem failureToken_ne (setting : Option Bytes) (size : Int) (h : 3 ≤ size) : failureToken setting size ≠ setting := by
  unfold failureToken
  rw [if_pos (by omega)]
  cases setting with
  | none => simp
  | some s =>
    simp only []
    split <;> (rename_i hs; intro heq; cases heq; simp [cat] at hs)

/-- the request gets past argument validation in `do_crypt` (and therefore reaches the wipe) -/
def validated (cfg : Config) (phrase setting : Option Bytes) : Bool :=
  match phrase, setting with
  | some p, some s =>
    decide (p.length < Gen.CRYPT_MAX_PASSPHRASE_SIZE) && !checkBadSaltChars s && (getHashFn cfg.table s).isSome
  | _, _ => false

theorem cryptAnswer_ok {cfg : Config} {D : Digests} {phrase setting : Option Bytes} {H : Bytes}
    (h : cryptAnswer cfg D phrase setting = .ok H) :
    ∃ p s r, phrase = some p ∧ setting = some s ∧ p.length < Gen.CRYPT_MAX_PASSPHRASE_SIZE ∧ checkBadSaltChars s = false ∧
      getHashFn cfg.table s = some r ∧ cryptMethod cfg.descryptOn D r.crypt p s = .ok H := by
  unfold cryptAnswer at h
  split at h
  · obtain ⟨hp, hb, r, hr, hm⟩ := cryptPure_ok.mp h
    exact ⟨_, _, r, rfl, rfl, hp, hb, hr, hm⟩
  · cases h

theorem cryptAnswer_ok_validated {cfg : Config} {D : Digests} {phrase setting : Option Bytes} {H : Bytes}
    (h : cryptAnswer cfg D phrase setting = .ok H) : validated cfg phrase setting = true := by
  obtain ⟨p, s, r, rfl, rfl, hp, hb, hr, _⟩ := cryptAnswer_ok h
  simp [validated, hp, hb, hr]

theorem cryptAnswer_ok_good {cfg : Config} {D : Digests} (hD : D.WF) {phrase setting : Option Bytes} {H : Bytes}
    (h : cryptAnswer cfg D phrase setting = .ok H) : goodHash H := by
  obtain ⟨p, s, r, rfl, rfl, _, hb, _, hm⟩ := cryptAnswer_ok h
  exact cryptMethod_good hD hb hm

theorem cryptAnswer_err {cfg : Config} {D : Digests} {phrase setting : Option Bytes} {e : Errno}
    (h : cryptAnswer cfg D phrase setting = .error e) : errOk e := by
  unfold cryptAnswer at h
  split at h
  · unfold cryptPure at h
    split at h; · cases h; exact Or.inr rfl
    split at h; · cases h; exact Or.inl rfl
    split at h; · cases h; exact Or.inl rfl
    exact cryptMethod_err h
  · cases h; exact Or.inl rfl

theorem doCrypt_eq (cfg : Config) (D : Digests) (phrase setting : Option Bytes) (d : DataObj) :
    doCrypt cfg D phrase setting d =
      match cryptAnswer cfg D phrase setting with
      | .ok H => ({ out := some H, scratchZero := true }, none, true)
      | .error e => ({ d with scratchZero := d.scratchZero || validated cfg phrase setting }, some e,
                      validated cfg phrase setting) := by
  unfold doCrypt cryptAnswer validated
  split
  · rename_i p s
    unfold cryptPure
    by_cases h1 : p.length ≥ Gen.CRYPT_MAX_PASSPHRASE_SIZE
    · simp [h1, Nat.not_lt.2 h1]
    by_cases h2 : checkBadSaltChars s = true
    · simp [h1, h2]
    simp only [if_neg h1, if_neg h2]
    cases getHashFn cfg.table s with
    | none => simp
    | some r => cases hm : cryptMethod cfg.descryptOn D r.crypt p s <;> simp [hm, Nat.lt_of_not_le h1, h2]
  · simp

theorem cryptRn_eq_cryptR (cfg : Config) (D : Digests) (phrase setting : Option Bytes) (d : DataObj) {size : Int}
    (hsz : (Gen.sizeof_crypt_data : Int) ≤ size) : cryptRn cfg D phrase setting d size = cryptR cfg D false phrase setting d := by
  have h1 : ¬ (size < 0 ∨ size < (Gen.sizeof_crypt_data : Int)) := by omega
  have hmin : min size (Gen.CRYPT_OUTPUT_SIZE : Int) = Gen.CRYPT_OUTPUT_SIZE := by
    have : (Gen.CRYPT_OUTPUT_SIZE : Int) ≤ Gen.sizeof_crypt_data := by decide
    omega
  simp only [cryptRn, cryptR, h1, hmin, if_false]
  rfl

end Xc
