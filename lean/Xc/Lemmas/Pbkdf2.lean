/-
  PBKDF2-HMAC-SHA256 (alg-sha256.c): the c = 1 fast path - both HMAC contexts padded once with `SHA256_Pad_Almost`, then two
  compressions per output block with only the four counter bytes of the inner buffer rewritten - computes exactly RFC 2104 HMAC of
  `salt ‖ INT(i+1)`, hence `PBKDF2_SHA256` as written is RFC 8018 PBKDF2 for every input (C16).
-/
import Xc.Prim.Yescrypt
import Xc.Lemmas.MD
namespace Xc.Yes
open Xc.MD

variable {σ : Type}

theorem kpad_length (A : Alg σ) (k : Bytes) (p : UInt8) : (kpad A k p).length = A.block := by simp [kpad]

theorem toBe32_length (w : UInt32) : (toBe32 w).length = 4 := rfl

theorem padAlmost_eq (A : Alg σ) (buf : Bytes) (count : Nat)
    (hm : count % A.block = buf.length) (hfit : buf.length + 1 + A.lenBytes ≤ A.block) :
    padAlmost A buf count = buf ++ padding A count := by
  have key : A.block - A.lenBytes - 1 - buf.length = zeroPad A.block A.lenBytes count := by
    unfold zeroPad
    have e : (count + 1 + A.lenBytes) % A.block = (buf.length + 1 + A.lenBytes) % A.block := by
      rw [← hm, Nat.add_assoc, Nat.add_mod, Nat.add_assoc (count % A.block), Nat.add_mod (count % A.block)]
      simp
    rw [e]
    by_cases hq : buf.length + 1 + A.lenBytes = A.block
    · rw [hq, Nat.mod_self]; simp; omega
    · have h1 : (buf.length + 1 + A.lenBytes) % A.block = buf.length + 1 + A.lenBytes := Nat.mod_eq_of_lt (by omega)
      rw [h1, Nat.mod_eq_of_lt (by omega)]; omega
  unfold padAlmost padding
  rw [key]; simp

theorem padAlmost_length (A : Alg σ) (buf : Bytes) (count : Nat) (hfit : buf.length + 1 + A.lenBytes ≤ A.block) :
    (padAlmost A buf count).length = A.block := by
  simp only [padAlmost, List.length_append, List.length_cons, List.length_replicate, lenField_length]
  omega

theorem splice0 (A : Alg σ) (x y : Bytes) (c : Nat) (h : x.length = y.length) :
    y ++ (padAlmost A x c).drop x.length = padAlmost A y c := by
  unfold padAlmost
  rw [List.append_assoc, List.drop_append_of_le_length (Nat.le_refl _), List.drop_length, List.nil_append, h, List.append_assoc]

theorem splice (A : Alg σ) (buf x y : Bytes) (c : Nat) (h : x.length = y.length) :
    (padAlmost A (buf ++ x) c).take buf.length ++ y ++ (padAlmost A (buf ++ x) c).drop (buf.length + x.length) =
      padAlmost A (buf ++ y) c := by
  rw [← splice0 A (buf ++ x) (buf ++ y) c (by simp [h])]
  have e : (padAlmost A (buf ++ x) c).take buf.length = buf := by
    unfold padAlmost
    rw [List.append_assoc, List.append_assoc, List.take_append_of_le_length (Nat.le_refl _), List.take_length]
  rw [e, List.length_append]

theorem add_mod_of (n b r k : Nat) (h : n % b = r) (hk : r + k < b) : (n + k) % b = r + k := by
  have := Nat.div_add_mod n b
  rw [← this, h, Nat.add_assoc, Nat.mul_add_mod, Nat.mod_eq_of_lt hk]

theorem final_update_fit (A : Alg σ) (hb : 0 < A.block) (c : Ctx σ) (m d : Bytes) (h : Rep A c m)
    (hfit : c.buf.length + d.length + 1 + A.lenBytes ≤ A.block) :
    final A (update A c d) = A.out (A.compress c.st (padAlmost A (c.buf ++ d) (c.count + d.length))) := by
  have hfit' : (c.buf ++ d).length + 1 + A.lenBytes ≤ A.block := by rw [List.length_append]; exact hfit
  rw [update_short A c d (by omega)]
  simp only [final]
  rw [← padAlmost_eq A _ _ (by rw [List.length_append]; exact add_mod_of _ _ _ _ (rep_count_mod A c m h).1 (by omega)) hfit',
    absorb_one A hb _ _ (padAlmost_length A _ _ hfit')]

/-- `hg` is the guard of the C code: the salt's last partial block leaves room for the counter, 0x80 and the length -/
theorem fastBlock_eq (A : Alg σ) (hlen : Nat) (hb : 0 < A.block)
    (hout : ∀ s b, (A.out (A.compress s b)).length = hlen) (hh : hlen + 1 + A.lenBytes ≤ A.block)
    (pw salt : Bytes) (i : Nat) (hg : salt.length % A.block + 4 + 1 + A.lenBytes ≤ A.block) :
    fastBlock A hlen pw salt i = Cores.hmacGen A pw (salt ++ toBe32 (i + 1).toUInt32) := by
  simp only [Cores.hmacGen, Cores.digestOf, List.foldl_cons, List.foldl_nil]
  change _ = final A (update A (update A (init A) (kpad A (hmacKey A pw) 0x5c))
      (final A (update A (update A (init A) (kpad A (hmacKey A pw) 0x36)) (salt ++ toBe32 (i + 1).toUInt32))))
  unfold fastBlock
  simp only []
  generalize hmacKey A pw = key
  generalize hbe : toBe32 (i + 1).toUInt32 = be
  have hbel : be.length = 4 := by rw [← hbe]; rfl
  -- the inner context: feeding `salt ++ be` at once is feeding `salt`, then `be`
  have hR1 := update_rep A hb _ _ (kpad A key 0x36) (init_rep A hb)
  have hR0 := update_rep A hb _ _ salt hR1
  have hin : final A (update A (update A (init A) (kpad A key 0x36)) (salt ++ be)) =
      final A (update A (update A (update A (init A) (kpad A key 0x36)) salt) be) := by
    rw [final_rep A hb _ _ (update_rep A hb _ _ (salt ++ be) hR1), final_rep A hb _ _ (update_rep A hb _ _ be hR0)]
    simp
  obtain ⟨hcm, hbl⟩ := rep_count_mod A _ _ hR0
  generalize update A (update A (init A) (kpad A key 0x36)) salt = ictx0 at *
  have hr : ictx0.buf.length = salt.length % A.block := by rw [hbl]; simp [kpad_length]
  rw [hin, final_update_fit A hb ictx0 _ be hR0 (by rw [hr, hbel]; omega),
    update_short A ictx0 [0, 0, 0, 0] (by rw [hr]; simp; omega)]
  simp only [List.length_cons, List.length_nil, hbel, hcm]
  have hsp := splice A ictx0.buf [0, 0, 0, 0] be (ictx0.count + 4) (by rw [hbel]; rfl)
  simp only [List.length_cons, List.length_nil] at hsp
  rw [hsp]
  generalize hI : A.out (A.compress ictx0.st (padAlmost A (ictx0.buf ++ be) (ictx0.count + 4))) = inner
  have hil : inner.length = hlen := by rw [← hI]; exact hout _ _
  -- the outer context: its buffer is empty after the key block
  have hO := update_rep A hb _ _ (kpad A key 0x5c) (init_rep A hb)
  obtain ⟨_, hobl⟩ := rep_count_mod A _ _ hO
  generalize update A (init A) (kpad A key 0x5c) = octx at *
  have hob : octx.buf = [] := by
    have : octx.buf.length = 0 := by rw [hobl]; simp [kpad_length]
    simpa using this
  rw [final_update_fit A hb octx _ inner hO (by rw [hob, hil]; simp; omega), hob, List.nil_append, hil,
    ← splice0 A (List.replicate hlen 0) inner _ (by simp [hil])]
  simp

theorem sha256_out_length (s : Sha256.State) (b : Bytes) : (Sha256.alg.out (Sha256.alg.compress s b)).length = 32 := by
  have h : (Sha256.compress s b).size = 8 := by
    unfold Sha256.compress
    simp only [Id.run, bind, pure, forIn]
    rfl
  show ((Sha256.compress s b).toList.flatMap toBe32).length = 32
  generalize Sha256.compress s b = a at h
  obtain ⟨l⟩ := a
  simp only [List.size_toArray] at h
  match l, h with
  | [_, _, _, _, _, _, _, _], _ => rfl

/-- the hypothesis is the guard `(saltlen & 63) <= 51` of the fast path of `PBKDF2_SHA256` -/
theorem fastBlock_sha256 (pw salt : Bytes) (i : Nat) (h : salt.length % 64 ≤ 51) :
    fastBlock Sha256.alg 32 pw salt i = hmacSha256 pw (salt ++ toBe32 (i + 1).toUInt32) :=
  fastBlock_eq Sha256.alg 32 (by decide) sha256_out_length (by decide) pw salt i (by show salt.length % 64 + 4 + 1 + 8 ≤ 64; omega)

theorem flatten_length_const {α} (n : Nat) : ∀ (l : List (List α)), (∀ x ∈ l, x.length = n) → l.flatten.length = n * l.length
  | [], _ => by simp
  | x :: xs, h => by
    simp only [List.flatten_cons, List.length_append, List.length_cons, Nat.mul_add, Nat.mul_one]
    rw [flatten_length_const n xs (fun y hy => h y (List.mem_cons_of_mem _ hy)), h x List.mem_cons_self]; omega

theorem pbkdf2Impl_eq (pw salt : Bytes) (c dkLen : Nat) : pbkdf2Impl pw salt c dkLen = pbkdf2Sha256 pw salt c dkLen := by
  unfold pbkdf2Impl
  split
  · rename_i h
    obtain ⟨hc, hd, hs⟩ := h
    simp only []
    split
    · rfl
    rename_i hfb
    subst hc
    unfold pbkdf2Sha256
    have hn : (dkLen + 31) / 32 = dkLen / 32 := by omega
    simp only [hn, Nat.sub_self, List.range_zero, List.foldl_nil, List.flatMap_id]
    have hblk := fun i => fastBlock_sha256 pw salt i hs
    simp only [hblk]
    rw [List.take_of_length_le]
    rw [flatten_length_const 32]
    · simp; omega
    · intro x hx
      obtain ⟨i, _, rfl⟩ := List.mem_map.1 hx
      rw [← hblk]; exact sha256_out_length _ _
  · rfl
end Xc.Yes
