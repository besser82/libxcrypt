/-
  The sixteen `gensalt_*_rn` writers, each described once (`Writes`): which arguments it refuses, how much room it asks for, and the
  text it writes otherwise.  C13 and the passwd(5)-safety of C10 are read off the descriptions; the acceptance by `crypt`
  (Lemmas/Accept), the encoded cost (C11) and the injectivity in the random bytes (C12) start from the same texts.
-/
import Xc.Lemmas.Gensalt
import Xc.Lemmas.Enc
namespace Xc

/-! ### the two salt loops -/

/-- what the salt loops of `gensalt_sha_rn` and `gensalt_sha1crypt_rn` emit -/
def encGroups (f : Nat → Nat) (k : Nat) : Bytes := (List.range k).flatMap fun i => enc24 (f i)

theorem encGroups_succ (f : Nat → Nat) (k : Nat) : encGroups f (k + 1) = enc24 (f 0) ++ encGroups (fun i => f (i + 1)) k := by
  simp only [encGroups, List.range_succ_eq_map, List.flatMap_cons, List.flatMap_map]

theorem encGroups_length (f : Nat → Nat) (k : Nat) : (encGroups f k).length = 4 * k := by
  induction k generalizing f with
  | zero => rfl
  | succ k ih => rw [encGroups_succ, List.length_append, ih, enc24_length]; omega

theorem encGroups_prefix (f : Nat → Nat) {k k' : Nat} (h : k ≤ k') : encGroups f k <+: encGroups f k' := by
  obtain ⟨d, rfl⟩ := Nat.exists_eq_add_of_le h
  rw [encGroups, encGroups, List.range_add, List.flatMap_append]
  exact List.prefix_append _ _

theorem encGroups_subset (f : Nat → Nat) (k : Nat) : encGroups f k ⊆ Gen.ascii64 := fun _ h => by
  simp only [encGroups, List.mem_flatMap, enc24, List.mem_cons, List.not_mem_nil, or_false] at h
  obtain ⟨i, _, rfl | rfl | rfl | rfl⟩ := h <;> exact a64_mem_ascii64 _

theorem encGroups_safe (f : Nat → Nat) (k : Nat) : passwdSafe (encGroups f k) = true := passwdSafe_of_ascii64 (encGroups_subset f k)

/-- the salt loop of `gensalt_sha_rn` stops at the first of: buffer full, random bytes used up, `maxsalt` characters written -/
theorem shaSaltLoop_eq (m n o : Nat) (rb : Bytes) : ∀ fuel w j,
    shaSaltLoop m n o rb fuel w (3 * j) = encGroups (fun i => le24 rb (3 * (j + i)))
      (min fuel (min ((o - w - 1) / 4) (min ((n - 1) / 3 - j) ((m + 3) / 4 - j)))) := by
  intro fuel
  induction fuel with
  | zero => intro w j; rw [Nat.zero_min]; rfl
  | succ f ih =>
    intro w j
    -- `omega` is kept away from the divisions (their proofs are slow to check): the loop test is turned into bounds on the three
    -- quotients by `Nat.le_div_iff_mul_le`, and the quotients are then atoms
    have hA : (o - (w + 4) - 1) / 4 = (o - w - 1) / 4 - 1 := by
      rw [show o - (w + 4) - 1 = o - w - 1 - 4 * 1 by omega, Nat.sub_mul_div]
    have e1 : ∀ a, (1 ≤ a - j) = (j + 1 ≤ a) := fun a => propext (by omega)
    have hc : (w + 4 < o ∧ 3 * j + 3 < n ∧ 3 * j * 4 / 3 < m) ↔ 1 ≤ (o - w - 1) / 4 ∧ 1 ≤ (n - 1) / 3 - j ∧ 1 ≤ (m + 3) / 4 - j := by
      rw [e1, e1, Nat.le_div_iff_mul_le (by decide), Nat.le_div_iff_mul_le (by decide), Nat.le_div_iff_mul_le (by decide),
        show 3 * j * 4 = 3 * (4 * j) by omega, Nat.mul_div_cancel_left _ (by decide : 0 < 3)]
      omega
    rw [shaSaltLoop]
    simp only [hc]
    rw [show 3 * j + 3 = 3 * (j + 1) by omega, ih, hA, Nat.sub_add_eq, Nat.sub_add_eq]
    generalize (o - w - 1) / 4 = A, (n - 1) / 3 - j = B, (m + 3) / 4 - j = C
    split
    · rename_i h
      obtain ⟨⟨A, rfl⟩, ⟨B, rfl⟩, ⟨C, rfl⟩⟩ : (∃ a, A = a + 1) ∧ (∃ b, B = b + 1) ∧ (∃ c, C = c + 1) :=
        ⟨⟨A - 1, by omega⟩, ⟨B - 1, by omega⟩, ⟨C - 1, by omega⟩⟩
      rw [Nat.add_min_add_right, Nat.add_min_add_right, Nat.add_min_add_right, Nat.add_sub_cancel, Nat.add_sub_cancel, Nat.add_sub_cancel,
        encGroups_succ]
      simp only [Nat.add_zero, Nat.add_assoc, Nat.add_comm 1]
    · rw [show min (f + 1) (min A (min B C)) = 0 by omega]
      rfl

/-- the fuel `m + 1` of the model is never the bound that stops the loop -/
theorem shaSaltLoop_run (m n o : Nat) (rb : Bytes) (w : Nat) :
    shaSaltLoop m n o rb (m + 1) w 0 = encGroups (fun i => le24 rb (3 * i)) (min ((o - w - 1) / 4) (min ((n - 1) / 3) ((m + 3) / 4))) := by
  have := shaSaltLoop_eq m n o rb (m + 1) w 0
  simp only [Nat.mul_zero, Nat.zero_add, Nat.sub_zero] at this
  rw [this]
  congr 1
  omega

/-- one group of `gensalt_sha1crypt_rn`'s salt loop -/
def be24 (rb : Bytes) (i : Nat) : Nat := rbAt rb i * 65536 + rbAt rb (i + 1) * 256 + rbAt rb (i + 2)

/-- the salt loop of `gensalt_sha1crypt_rn` stops when fewer than four random bytes or five places in the buffer are left -/
theorem sha1SaltLoop_eq (rb : Bytes) (rlim olim : Nat) : ∀ fuel r o,
    sha1SaltLoop rb rlim olim fuel r o =
      encGroups (fun i => be24 rb (r + 3 * i)) (min fuel (min ((rlim - r - 1) / 3) ((olim - o - 1) / 4))) := by
  intro fuel
  induction fuel with
  | zero => intro r o; rw [Nat.zero_min]; rfl
  | succ f ih =>
    intro r o
    have hA : (rlim - (r + 3) - 1) / 3 = (rlim - r - 1) / 3 - 1 := by
      rw [show rlim - (r + 3) - 1 = rlim - r - 1 - 3 * 1 by omega, Nat.sub_mul_div]
    have hB : (olim - (o + 4) - 1) / 4 = (olim - o - 1) / 4 - 1 := by
      rw [show olim - (o + 4) - 1 = olim - o - 1 - 4 * 1 by omega, Nat.sub_mul_div]
    have hc : (r + 3 < rlim ∧ o + 4 < olim) ↔ 1 ≤ (rlim - r - 1) / 3 ∧ 1 ≤ (olim - o - 1) / 4 := by
      rw [Nat.le_div_iff_mul_le (by decide), Nat.le_div_iff_mul_le (by decide)]
      omega
    rw [sha1SaltLoop]
    simp only [hc]
    rw [ih, hA, hB]
    generalize (rlim - r - 1) / 3 = A, (olim - o - 1) / 4 = B
    split
    · rename_i h
      obtain ⟨⟨A, rfl⟩, ⟨B, rfl⟩⟩ : (∃ a, A = a + 1) ∧ (∃ b, B = b + 1) := ⟨⟨A - 1, by omega⟩, ⟨B - 1, by omega⟩⟩
      rw [Nat.add_min_add_right, Nat.add_min_add_right, Nat.add_sub_cancel, Nat.add_sub_cancel, encGroups_succ,
        show rbAt rb r * 65536 + rbAt rb (r + 1) * 256 + rbAt rb (r + 2) = be24 rb r from rfl]
      simp only [Nat.mul_add, Nat.mul_zero, Nat.add_zero, Nat.mul_one, Nat.add_assoc, Nat.add_comm 3]
    · rw [show min (f + 1) (min A B) = 0 by omega]
      rfl

theorem rbAt_lt (rb : Bytes) (i : Nat) : rbAt rb i < 256 := (rb.getD i 0).toNat_lt

theorem le24_lt (rb : Bytes) (i : Nat) : le24 rb i < 2 ^ 24 := by
  unfold le24
  have := rbAt_lt rb i; have := rbAt_lt rb (i + 1); have := rbAt_lt rb (i + 2)
  omega

theorem le24_bytes (rb rb' : Bytes) (i : Nat) (h : le24 rb i = le24 rb' i) :
    rbAt rb i = rbAt rb' i ∧ rbAt rb (i + 1) = rbAt rb' (i + 1) ∧ rbAt rb (i + 2) = rbAt rb' (i + 2) := by
  unfold le24 at h
  have := rbAt_lt rb i; have := rbAt_lt rb (i + 1); have := rbAt_lt rb (i + 2)
  have := rbAt_lt rb' i; have := rbAt_lt rb' (i + 1); have := rbAt_lt rb' (i + 2)
  omega

theorem be24_lt (rb : Bytes) (i : Nat) : be24 rb i < 2 ^ 24 := by
  unfold be24
  have := rbAt_lt rb i; have := rbAt_lt rb (i + 1); have := rbAt_lt rb (i + 2)
  omega

theorem be24_bytes (rb rb' : Bytes) (i : Nat) (h : be24 rb i = be24 rb' i) :
    rbAt rb i = rbAt rb' i ∧ rbAt rb (i + 1) = rbAt rb' (i + 1) ∧ rbAt rb (i + 2) = rbAt rb' (i + 2) := by
  unfold be24 at h
  have := rbAt_lt rb i; have := rbAt_lt rb (i + 1); have := rbAt_lt rb (i + 2)
  have := rbAt_lt rb' i; have := rbAt_lt rb' (i + 1); have := rbAt_lt rb' (i + 2)
  omega

/-! ### what a writer does, as a function of the buffer size -/

/-- what C13 asks of one writer call with buffer size `osize` -/
def WOut.good (osize : Nat) : WOut → Prop
  | .ok s ext => s.length < osize ∧ ext ≤ osize
  | .err e => e = .EINVAL ∨ e = .ERANGE
  | .abort => False

/-- One writer as a function of the size `o` of its buffer: arguments that fail `V` are refused with EINVAL and a buffer below `need`
    with ERANGE (whichever the C function tests first); otherwise the C string `T o` is written, and it and every other write stay inside
    the buffer.  A larger buffer receives an extension of the text. -/
structure Writes (w : Nat → WOut) (V : Prop) (need : Nat) (T : Nat → Bytes) : Prop where
  run : ∀ o, (¬ V ∧ w o = .err .EINVAL) ∨ (o < need ∧ w o = .err .ERANGE) ∨
    (V ∧ need ≤ o ∧ (T o).length < o ∧ ∃ e, e ≤ o ∧ w o = .ok (T o) e)
  grows : ∀ o o', need ≤ o → o ≤ o' → T o <+: T o'

namespace Writes
variable {w : Nat → WOut} {V : Prop} {need : Nat} {T : Nat → Bytes} (hw : Writes w V need T)
include hw

theorem ok {o : Nat} {S : Bytes} {e : Nat} (h : w o = .ok S e) : V ∧ need ≤ o ∧ S = T o := by
  rcases hw.run o with ⟨_, h'⟩ | ⟨_, h'⟩ | ⟨hV, ho, _, e', _, h'⟩ <;> rw [h'] at h <;> cases h
  exact ⟨hV, ho, rfl⟩

theorem good (o : Nat) : (w o).good o := by
  rcases hw.run o with ⟨_, h⟩ | ⟨_, h⟩ | ⟨_, _, hl, e, he, h⟩ <;> rw [h]
  · exact .inl rfl
  · exact .inr rfl
  · exact ⟨hl, he⟩

theorem mono {o o' : Nat} {S : Bytes} {e : Nat} (h : w o = .ok S e) (ho : o ≤ o') : ∃ S' e', w o' = .ok S' e' ∧ S <+: S' := by
  obtain ⟨hV, hn, rfl⟩ := hw.ok h
  rcases hw.run o' with ⟨hV', _⟩ | ⟨ho', _⟩ | ⟨_, _, _, e', _, h'⟩
  · exact absurd hV hV'
  · omega
  · exact ⟨_, _, h', hw.grows o o' hn ho⟩

theorem room {o : Nat} (h : need ≤ o) : w o ≠ .err .ERANGE := by
  rcases hw.run o with ⟨_, h'⟩ | ⟨ho, _⟩ | ⟨_, _, _, e, _, h'⟩
  · rw [h']; intro hh; cases hh
  · omega
  · rw [h']; intro hh; cases hh

theorem einval {o : Nat} (hV : ¬ V) (h : need ≤ o) : w o = .err .EINVAL := by
  rcases hw.run o with ⟨_, h'⟩ | ⟨ho, _⟩ | ⟨hV', _⟩
  · exact h'
  · omega
  · exact absurd hV' hV

end Writes

theorem Writes.same {w w' : Nat → WOut} {V V' : Prop} {need need' : Nat} {T T' : Nat → Bytes} (hw : Writes w V need T)
    (hw' : Writes w' V' need' T') {o o' : Nat} {S : Bytes} {e e' : Nat} (h : w o = .ok S e) (h' : w' o' = .ok S e') : T o = T' o' :=
  (hw.ok h).2.2.symm.trans (hw'.ok h').2.2

/-! ### the writers -/

theorem writes_nt (count : Nat) : Writes (gensaltNt count) (count = 0) 4 fun _ => [36, 51, 36] where
  run o := by
    unfold gensaltNt
    split
    · exact .inr (.inl ⟨by omega, rfl⟩)
    split
    · exact .inl ⟨by omega, rfl⟩
    · exact .inr (.inr ⟨by omega, by omega, by simp; omega, o, by omega, rfl⟩)
  grows _ _ _ _ := List.prefix_refl _

theorem writes_des (count : Nat) (rb : Bytes) (n : Nat) :
    Writes (gensaltDes count rb n) (2 ≤ n ∧ count = 0) 3 fun _ => [a64 (rbAt rb 0), a64 (rbAt rb 1)] where
  run o := by
    unfold gensaltDes
    split
    · exact .inr (.inl ⟨by omega, rfl⟩)
    split
    · exact .inl ⟨by omega, rfl⟩
    · exact .inr (.inr ⟨by omega, by omega, by simp; omega, 3, by omega, rfl⟩)
  grows _ _ _ _ := List.prefix_refl _

/-- without descrypt the twelve dots make the setting too long to be taken for a descrypt one -/
theorem writes_big (d : Bool) (count : Nat) (rb : Bytes) (n : Nat) :
    Writes (gensaltBig d count rb n) (2 ≤ n ∧ count = 0) (if d then 3 else 15)
      fun _ => [a64 (rbAt rb 0), a64 (rbAt rb 1)] ++ if d then [] else [46, 46, 46, 46, 46, 46, 46, 46, 46, 46, 46, 46] := by
  cases d
  · refine ⟨fun o => ?_, fun _ _ _ _ => List.prefix_refl _⟩
    unfold gensaltBig
    simp only [Bool.false_eq_true, if_false]
    split
    · exact .inr (.inl ⟨by omega, rfl⟩)
    rcases (writes_des count rb n).run o with ⟨hV, h⟩ | ⟨_, _⟩ | ⟨hV, _, _, e, _, h⟩
    · rw [h]; exact .inl ⟨hV, rfl⟩
    · omega
    · rw [h]; exact .inr (.inr ⟨hV, by omega, by simp; omega, o, by omega, rfl⟩)
  · have : gensaltBig true count rb n = gensaltDes count rb n := by funext o; simp [gensaltBig]
    simpa [this] using writes_des count rb n

namespace C11
/-- the iteration count `gensalt_bsdicrypt_rn` encodes -/
def bsdiCount (count : Nat) : Nat :=
  let c := if count = 0 then 725 else count
  let c := if c > 0xffffff then 0xffffff else c
  if c % 2 = 0 then c + 1 else c

theorem bsdiCount_bounds (count : Nat) : bsdiCount count % 2 = 1 ∧ bsdiCount count ≤ 0xffffff := by
  unfold bsdiCount
  dsimp only
  repeat' split
  all_goals omega

end C11

theorem writes_bsdi (count : Nat) (rb : Bytes) (n : Nat) :
    Writes (gensaltBsdi count rb n) (3 ≤ n) 10 fun _ => [95] ++ enc24 (C11.bsdiCount count) ++ enc24 (le24 rb 0) where
  run o := by
    unfold gensaltBsdi
    split
    · exact .inr (.inl ⟨by omega, rfl⟩)
    split
    · exact .inl ⟨by omega, rfl⟩
    · exact .inr (.inr ⟨by omega, by omega, by simp; omega, 10, by omega, rfl⟩)
  grows _ _ _ _ := List.prefix_refl _

namespace C12
/-- what `gensalt_sha_rn` writes in front of the salt for a clamped count `c` -/
def shaHead (tag : UInt8) (defc c : Nat) : Bytes :=
  if c = defc then [36, tag, 36] else [36, tag, 36] ++ [114, 111, 117, 110, 100, 115, 61] ++ toDec c ++ [36]
end C12
open C12 (shaHead)

/-- the size test of the shared writer asks for the head, four salt characters and the NUL -/
theorem shaHead_length (tag : UInt8) (defc : Nat) {c maxc : Nat} (hc : c ≤ maxc) (hmax : maxc < 10000000000) :
    (if c ≠ defc then 8 + 9 + ceilingSteps c else 8) = (shaHead tag defc c).length + 5 ∧ (shaHead tag defc c).length ≤ 21 := by
  have := ceilingSteps_eq c (by omega)
  have := toDec_length_le10 c (by omega)
  unfold shaHead
  by_cases h : c = defc <;> simp [h] <;> omega

theorem writes_sha (tag : UInt8) (maxsalt defc minc maxc count : Nat) (rb : Bytes) (n : Nat) (hmax : maxc < 10000000000) :
    Writes (gensaltSha tag maxsalt defc minc maxc count rb n) (4 ≤ n) ((shaHead tag defc (shaClamp defc minc maxc count)).length + 5)
      fun o => shaHead tag defc (shaClamp defc minc maxc count) ++ encGroups (fun i => le24 rb (3 * i))
        (min ((o - (shaHead tag defc (shaClamp defc minc maxc count)).length - 1) / 4) (min ((n - 1) / 3) ((maxsalt + 3) / 4))) where
  run o := by
    have hl := (shaHead_length tag defc (shaClamp_le defc minc maxc count) hmax).1
    unfold gensaltSha gensaltShaCore
    generalize shaClamp defc minc maxc count = c at *
    split
    · exact .inl ⟨by omega, rfl⟩
    dsimp only
    rw [hl, show (if c = defc then [36, tag, 36] else [36, tag, 36] ++ [114, 111, 117, 110, 100, 115, 61] ++ toDec c ++ [36]) = shaHead tag defc c from rfl,
      shaSaltLoop_run, List.length_append, encGroups_length]
    split
    · exact .inr (.inl ⟨by omega, rfl⟩)
    -- the `assert (written + 4 < output_size)` repeats the size test
    rw [if_neg (by omega)]
    exact .inr (.inr ⟨by omega, by omega, by omega, _, by omega, rfl⟩)
  grows o o' _ h := (List.prefix_append_right_inj _).mpr (encGroups_prefix _ (by omega))

theorem writes_md5 (count : Nat) (rb : Bytes) (n : Nat) :
    Writes (gensaltMd5 count rb n) (count = 0 ∧ 4 ≤ n) 8
      fun o => [36, 49, 36] ++ encGroups (fun i => le24 rb (3 * i)) (min ((o - 3 - 1) / 4) (min ((n - 1) / 3) 2)) := by
  have hs : Writes (gensaltSha 49 Gen.MD5_SALT_LEN_MAX 1000 1000 1000 1000 rb n) (4 ≤ n) 8 _ :=
    writes_sha 49 Gen.MD5_SALT_LEN_MAX 1000 1000 1000 1000 rb n (by decide)
  refine ⟨fun o => ?_, hs.grows⟩
  unfold gensaltMd5
  split
  · exact .inl ⟨by omega, rfl⟩
  rcases hs.run o with ⟨hV, h⟩ | h | ⟨hV, h⟩
  · exact .inl ⟨by omega, h⟩
  · exact .inr (.inl h)
  · exact .inr (.inr ⟨by omega, h⟩)

/-- 19 is `sizeof "$sha1$$$"` and ten digits; 15 groups are what `CRYPT_SHA1_SALT_LENGTH` = 64 characters leave room for -/
theorem writes_sha1 (count : Nat) (rb : Bytes) (n : Nat) :
    Writes (gensaltSha1 count rb n) (16 ≤ n) ((n - 4) * 4 / 3 + 19)
      fun _ => [36, 115, 104, 97, 49, 36] ++ toDec (sha1Rounds count rb) ++ [36] ++
        encGroups (fun i => be24 rb (4 + 3 * i)) (min ((n - 5) / 3) 15) ++ [36] where
  run o := by
    have hr := sha1Rounds_lt count rb
    have hd := toDec_length_le10 (sha1Rounds count rb) (by omega)
    have hp := toDec_length_pos (sha1Rounds count rb)
    unfold gensaltSha1
    split
    · exact .inl ⟨by omega, rfl⟩
    split
    · exact .inr (.inl ⟨by omega, rfl⟩)
    dsimp only
    rw [sha1SaltLoop_eq, show Gen.CRYPT_SHA1_SALT_LENGTH = 64 from rfl]
    simp only [List.length_append, List.length_cons, List.length_nil, encGroups_length]
    generalize (toDec (sha1Rounds count rb)).length = L at *
    -- once the buffer passes the size test, neither the second `assert` nor the lowered output limit `osize - 2` comes into play
    rw [if_neg (by omega), show min (64 + 1) (min ((n - 4 - 1) / 3)
      (((if 6 + L + 1 + 64 + 2 > o then o - 2 else 6 + L + 1 + 64) - (6 + L + 1) - 1) / 4)) = min ((n - 5) / 3) 15 by split <;> omega]
    exact .inr (.inr ⟨by omega, by omega, by omega, _, by omega, rfl⟩)
  grows _ _ _ _ := List.prefix_refl _

theorem writes_bf (sub : UInt8) (count : Nat) (rb : Bytes) (n : Nat) :
    Writes (gensaltBf sub count rb n) (16 ≤ n ∧ 4 ≤ dfl count 5 ∧ dfl count 5 ≤ 31 ∧ (sub = 97 ∨ sub = 98 ∨ sub = 121)) 30
      fun _ => [36, 50, sub, 36, (48 + dfl count 5 / 10).toUInt8, (48 + dfl count 5 % 10).toUInt8, 36] ++ bfEncode (padTo rb 16) where
  run o := by
    unfold gensaltBf
    dsimp only
    split
    · next h => exact .inl ⟨by simpa only [Classical.not_and_iff_not_or_not, not_or, Nat.not_le, ne_eq] using h, rfl⟩
    split
    · exact .inr (.inl ⟨by omega, rfl⟩)
    · next h _ =>
      exact .inr (.inr ⟨by simpa only [not_or, Classical.not_and_iff_not_or_not, Nat.not_lt, Classical.not_not, ne_eq] using h, by omega,
        by simp [bfEncode_length16, padTo_length]; omega, 30, by omega, rfl⟩)
  grows _ _ _ _ := List.prefix_refl _

theorem base64Len_le {n : Nat} (h : n ≤ 64) : base64Len n ≤ 86 := by unfold base64Len; omega

theorem encode64_length_le {src : Bytes} (h : src.length ≤ 64) : (encode64 src).length ≤ 86 := by
  rw [encode64_length]; exact base64Len_le h

/-- 48 is the first row of `encode64_uint32`'s range table: a value less than 48 above the minimum takes one character -/
theorem yesEnc32_small {v m : Nat} (h1 : m ≤ v) (h2 : v < m + 48) (d : Nat) :
    yesEnc32 d v m = if d ≤ 1 then none else some [a64 (v - m)] := by
  unfold yesEnc32
  rw [if_neg (by omega)]
  simp only [yesEnc32.go]
  rw [if_pos (by omega)]
  simp [a64, Nat.mod_eq_of_lt (show v - m < 64 by omega)]

theorem n2log2_two_pow {k : Nat} (h : 1 ≤ k) : n2log2 (2 ^ k) = k := by
  unfold n2log2
  rw [if_neg (by have := Nat.one_lt_two_pow (n := k) (by omega); omega)]
  simp [Nat.log2_two_pow]

theorem yesRN_small {c : Nat} (h1 : 1 ≤ c) (h2 : c ≤ 11) :
    1 ≤ n2log2 (yesRN c).2 ∧ n2log2 (yesRN c).2 < 1 + 48 ∧ 1 ≤ (yesRN c).1 ∧ (yesRN c).1 < 1 + 48 := by
  unfold yesRN
  split <;> (rw [n2log2_two_pow (by omega)]; omega)

/-- the parameter string `gensalt_yescrypt_rn` writes for cost `c` (1..11): `$y$j<N><r>$`, through the model's own `yesEnc32` so that
    nothing is copied by hand (any room above 1 gives the same characters: `yesEnc32_small`; 100 is such a room) -/
def yesPfx (c : Nat) : Bytes :=
  [36, 121, 36] ++ (yesEnc32 100 (Gen.YESCRYPT_RW + Gen.YESCRYPT_DEFAULTS / 4) 0).getD [] ++ (yesEnc32 100 (n2log2 (yesRN c).2) 1).getD []
    ++ (yesEnc32 100 (yesRN c).1 1).getD [] ++ [36]

theorem yesPfx_eq {c : Nat} (h1 : 1 ≤ c) (h2 : c ≤ 11) :
    yesPfx c = [36, 121, 36, a64 47, a64 (n2log2 (yesRN c).2 - 1), a64 ((yesRN c).1 - 1), 36] := by
  obtain ⟨n1, n2, r1, r2⟩ := yesRN_small h1 h2
  rw [yesPfx, yesEnc32_small (by decide) (by decide), yesEnc32_small n1 n2, yesEnc32_small r1 r2]
  rfl

theorem yesPfx_split (c : Nat) : yesPfx c = [36, 121, 36] ++ (yesPfx c).drop 3 := by
  unfold yesPfx; simp

theorem yesPfx_cat1 (c : Nat) : cat (yesPfx c) 1 = 121 := by unfold yesPfx; rfl

theorem yesPfx_length {c : Nat} (h1 : 1 ≤ c) (h2 : c ≤ 11) : (yesPfx c).length = 7 := by rw [yesPfx_eq h1 h2]; rfl

theorem yesEncodeParams_cost {c : Nat} (h1 : 1 ≤ c) (h2 : c ≤ 11) (src : Bytes) {b : Nat} (hb : 7 + (encode64 src).length < b) :
    yesEncodeParams (yesRN c).2 (yesRN c).1 src b = some (yesPfx c ++ encode64 src) := by
  obtain ⟨n1, n2, r1, r2⟩ := yesRN_small h1 h2
  have hfl : (if Gen.YESCRYPT_DEFAULTS < Gen.YESCRYPT_RW then some Gen.YESCRYPT_DEFAULTS
      else if Gen.YESCRYPT_DEFAULTS &&& Gen.YESCRYPT_MODE_MASK = Gen.YESCRYPT_RW ∧
              Gen.YESCRYPT_DEFAULTS ≤ Gen.YESCRYPT_RW ||| Gen.YESCRYPT_RW_FLAVOR_MASK then
          some (Gen.YESCRYPT_RW + Gen.YESCRYPT_DEFAULTS / 4) else none) = some (Gen.YESCRYPT_RW + Gen.YESCRYPT_DEFAULTS / 4) := by decide
  unfold yesEncodeParams yesEncode64
  simp only [hfl, yesEnc32_small (show 0 ≤ Gen.YESCRYPT_RW + Gen.YESCRYPT_DEFAULTS / 4 by decide) (by decide), yesEnc32_small n1 n2,
    yesEnc32_small r1 r2]
  rw [if_neg (by omega), if_neg (by omega), yesPfx_eq h1 h2]
  simp (disch := simp; omega) only [if_neg, Option.bind_eq_bind, Option.bind_some, Option.pure_def]
  rfl

theorem yesCost_range {count : Nat} (h : count ≤ 11) : 1 ≤ dfl count 5 ∧ dfl count 5 ≤ 11 := by unfold dfl; split <;> omega

theorem scryptCost_range {count : Nat} (h6 : count = 0 ∨ 6 ≤ count) (h11 : count ≤ 11) : 6 ≤ dfl count 7 ∧ dfl count 7 ≤ 11 := by
  unfold dfl; split <;> omega

theorem writes_yescrypt (count : Nat) (rb : Bytes) (n : Nat) :
    Writes (gensaltYescrypt count rb n) (count ≤ 11 ∧ 16 ≤ min n 64) (53 + base64Len (min n 64))
      fun _ => yesPfx (dfl count 5) ++ encode64 (padTo rb (min n 64)) where
  run o := by
    have hbl : base64Len (min n 64) ≤ 86 := base64Len_le (by omega)
    unfold gensaltYescrypt
    dsimp only
    rw [show Gen.CRYPT_GENSALT_OUTPUT_SIZE = 192 from rfl]
    split
    · exact .inr (.inl ⟨by omega, rfl⟩)
    split
    · exact .inl ⟨by omega, rfl⟩
    have hc := yesCost_range (count := count) (by omega)
    have hl : (yesPfx (dfl count 5) ++ encode64 (padTo rb (min n 64))).length = 7 + base64Len (min n 64) := by
      rw [List.length_append, yesPfx_length hc.1 hc.2, encode64_length, padTo_length]
    rw [yesEncodeParams_cost hc.1 hc.2 _ (by rw [encode64_length, padTo_length]; omega)]
    dsimp only
    rw [if_neg (by omega)]
    exact .inr (.inr ⟨by omega, by omega, by omega, o, by omega, rfl⟩)
  grows _ _ _ _ := List.prefix_refl _

/-- the parameter string `gensalt_scrypt_rn` writes for cost `c` (6..11): `$7$<N>` then r = 32 and p = 1 in five characters each -/
def scryptPfx (c : Nat) : Bytes :=
  [36, 55, 36] ++ [a64 (n2log2 (2 ^ (c + 7)))] ++ ((List.range 5).map fun i => a64 (32 / 64 ^ i)) ++ ((List.range 5).map fun i => a64 (1 / 64 ^ i))

theorem scryptPfx_length (c : Nat) : (scryptPfx c).length = 14 := by simp [scryptPfx]

theorem scryptOutbuf_eq (c : Nat) (rb : Bytes) {n : Nat} (hn : n ≤ 64) : scryptOutbuf c rb n = .ok (scryptPfx c ++ encode64 (padTo rb n)) := by
  have := base64Len_le hn
  unfold scryptOutbuf scryptEnc32
  dsimp only
  rw [if_neg (by decide), if_neg (by decide)]
  dsimp only
  rw [if_neg (by decide), if_neg (by decide)]
  dsimp only
  rw [if_neg (by simp [show Gen.CRYPT_GENSALT_OUTPUT_SIZE = 192 from rfl]; omega)]
  rfl

theorem writes_scrypt (count : Nat) (rb : Bytes) (n : Nat) :
    Writes (gensaltScrypt count rb n) ((count = 0 ∨ 6 ≤ count) ∧ count ≤ 11 ∧ 16 ≤ min n 64) (15 + base64Len (min n 64))
      fun _ => scryptPfx (dfl count 7) ++ encode64 (padTo rb (min n 64)) where
  run o := by
    have hbl : base64Len (min n 64) ≤ 86 := base64Len_le (by omega)
    unfold gensaltScrypt
    dsimp only
    rw [show Gen.CRYPT_GENSALT_OUTPUT_SIZE = 192 from rfl]
    split
    · exact .inr (.inl ⟨by omega, rfl⟩)
    split
    · exact .inl ⟨by omega, rfl⟩
    have hl : (scryptPfx (dfl count 7) ++ encode64 (padTo rb (min n 64))).length = 14 + base64Len (min n 64) := by
      rw [List.length_append, scryptPfx_length, encode64_length, padTo_length]
    rw [scryptOutbuf_eq _ _ (by omega)]
    dsimp only
    rw [if_neg (by omega)]
    exact .inr (.inr ⟨by omega, by omega, by omega, o, by omega, rfl⟩)
  grows _ _ _ _ := List.prefix_refl _

/-- `gensalt_gost_yescrypt_rn` writes the `$y$` setting into the buffer from its second byte on and puts `$g` in front -/
theorem writes_gost (count : Nat) (rb : Bytes) (n : Nat) :
    Writes (gensaltGost count rb n) (count ≤ 11 ∧ 16 ≤ min n 64) (54 + base64Len (min n 64))
      fun _ => [36, 103, 121, 36] ++ (yesPfx (dfl count 5)).drop 3 ++ encode64 (padTo rb (min n 64)) where
  run o := by
    have hbl : base64Len (min n 64) ≤ 86 := base64Len_le (by omega)
    have hy := writes_yescrypt count rb (min n 64)
    rw [show min (min n 64) 64 = min n 64 by omega, yesPfx_split] at hy
    unfold gensaltGost
    dsimp only
    rw [show Gen.CRYPT_GENSALT_OUTPUT_SIZE = 192 from rfl]
    split
    · exact .inr (.inl ⟨by omega, rfl⟩)
    rcases hy.run (o - 1) with ⟨hV, h⟩ | ⟨_, h⟩ | ⟨hV, _, hl, e, _, h⟩ <;> rw [h]
    · exact .inl ⟨hV, rfl⟩
    · exact .inr (.inl ⟨by omega, rfl⟩)
    · exact .inr (.inr ⟨hV, by omega, by simp at hl ⊢; omega, _, by simp at hl ⊢; omega, rfl⟩)
  grows _ _ _ _ := List.prefix_refl _

theorem writes_sunmd5 (count : Nat) (rb : Bytes) (n : Nat) :
    Writes (gensaltSunmd5 count rb n) (8 ≤ n) 33 fun _ => Gen.SUNMD5_PREFIX ++ [44, 114, 111, 117, 110, 100, 115, 61] ++
      toDec (sunmd5Count count rb) ++ [36] ++ enc24 (le24 rb 2) ++ enc24 (le24 rb 5) ++ [36] where
  run o := by
    have hc := sunmd5Count_bounds count rb
    have hd := toDec_length_le10 (sunmd5Count count rb) (by omega)
    unfold gensaltSunmd5
    rw [show Gen.SUNMD5_MAX_SETTING_LEN = 32 from rfl]
    split
    · exact .inr (.inl ⟨by omega, rfl⟩)
    split
    · exact .inl ⟨by omega, rfl⟩
    dsimp only
    rw [if_neg (by omega)]
    refine .inr (.inr ⟨by omega, by omega, ?_, _, ?_, rfl⟩) <;>
      simp only [List.length_append, List.length_cons, List.length_nil, enc24_length, show Gen.SUNMD5_PREFIX.length = 4 from rfl] <;> omega
  grows _ _ _ _ := List.prefix_refl _

/-! ### all sixteen -/

theorem safe_nil : passwdSafe [] = true := rfl

theorem digit2_safe : ∀ c : Fin 32, isBadSaltChar (48 + c.val / 10).toUInt8 = false ∧ isBadSaltChar (48 + c.val % 10).toUInt8 = false := by decide

theorem yesPfx_safe {c : Nat} (h1 : 1 ≤ c) (h2 : c ≤ 11) : passwdSafe (yesPfx c) = true := by
  rw [yesPfx_eq h1 h2]
  simp [a64_safe]
  decide

theorem shaHead_safe {tag : UInt8} (h : isBadSaltChar tag = false) (defc c : Nat) : passwdSafe (shaHead tag defc c) = true := by
  unfold shaHead
  split <;> simp [toDec_safe, h] <;> decide

/-- 192 is CRYPT_GENSALT_OUTPUT_SIZE -/
theorem writes_method (d : Bool) (m : Method) (count : Nat) (rb : Bytes) (n : Nat) :
    ∃ V need T, Writes (gensaltMethod d m count rb n) V need T ∧ (n ≤ 64 → need ≤ 192) ∧ (V → ∀ o, passwdSafe (T o) = true) := by
  have hbl : base64Len (min n 64) ≤ 86 := base64Len_le (by omega)
  have bf : ∀ sub, isBadSaltChar sub = false → ∃ V need T, Writes (gensaltBf sub count rb n) V need T ∧ (n ≤ 64 → need ≤ 192) ∧
      (V → ∀ o, passwdSafe (T o) = true) := fun sub hs => by
    refine ⟨_, _, _, writes_bf sub count rb n, fun _ => by omega, fun hV _ => ?_⟩
    have hd := digit2_safe ⟨dfl count 5, by omega⟩
    simp only [passwdSafe_append, passwdSafe_cons, passwdSafe_nil, bfEncode_safe, hs, hd.1, hd.2]
    decide
  have sha : ∀ tag maxsalt defc minc maxc, isBadSaltChar tag = false → maxc < 10000000000 → ∃ V need T,
      Writes (gensaltSha tag maxsalt defc minc maxc count rb n) V need T ∧ (n ≤ 64 → need ≤ 192) ∧ (V → ∀ o, passwdSafe (T o) = true) :=
    fun tag maxsalt defc minc maxc ht hm => by
      refine ⟨_, _, _, writes_sha tag maxsalt defc minc maxc count rb n hm, fun _ => ?_, fun _ _ => ?_⟩
      · have := (shaHead_length tag defc (shaClamp_le defc minc maxc count) hm).2
        omega
      · rw [passwdSafe_append, shaHead_safe ht, encGroups_safe]; rfl
  cases m
  case yescrypt =>
    refine ⟨_, _, _, writes_yescrypt count rb n, fun _ => by omega, fun hV _ => ?_⟩
    rw [passwdSafe_append, encode64_safe, yesPfx_safe (yesCost_range hV.1).1 (yesCost_range hV.1).2]; rfl
  case gost_yescrypt =>
    refine ⟨_, _, _, writes_gost count rb n, fun _ => by omega, fun hV _ => ?_⟩
    rw [passwdSafe_append, passwdSafe_append, encode64_safe, passwdSafe_drop (yesPfx_safe (yesCost_range hV.1).1 (yesCost_range hV.1).2)]; decide
  case scrypt =>
    refine ⟨_, _, _, writes_scrypt count rb n, fun _ => by omega, fun _ _ => ?_⟩
    rw [passwdSafe_append, encode64_safe]
    simp [scryptPfx, passwdSafe, a64_safe]
    decide
  case bcrypt => exact bf 98 (by decide)
  case bcrypt_y => exact bf 121 (by decide)
  case bcrypt_a => exact bf 97 (by decide)
  case bcrypt_x => exact ⟨False, 0, fun _ => [], ⟨fun _ => .inl ⟨id, rfl⟩, fun _ _ _ _ => List.prefix_refl _⟩, fun _ => by omega, fun h => h.elim⟩
  case sha512crypt => exact sha 54 _ _ _ _ (by decide) (by decide)
  case sha256crypt => exact sha 53 _ _ _ _ (by decide) (by decide)
  case sha1crypt =>
    refine ⟨_, _, _, writes_sha1 count rb n, fun _ => by omega, fun _ _ => ?_⟩
    simp only [passwdSafe_append, encGroups_safe, toDec_safe]; decide
  case sunmd5 =>
    refine ⟨_, _, _, writes_sunmd5 count rb n, fun _ => by omega, fun _ _ => ?_⟩
    simp only [passwdSafe_append, enc24_safe, toDec_safe]; decide
  case md5crypt =>
    refine ⟨_, _, _, writes_md5 count rb n, fun _ => by omega, fun _ _ => ?_⟩
    rw [passwdSafe_append, encGroups_safe]; decide
  case nt => exact ⟨_, _, _, writes_nt count, fun _ => by omega, fun _ _ => by decide⟩
  case bsdicrypt =>
    refine ⟨_, _, _, writes_bsdi count rb n, fun _ => by omega, fun _ _ => ?_⟩
    simp only [passwdSafe_append, enc24_safe]; decide
  case bigcrypt =>
    refine ⟨_, _, _, writes_big d count rb n, fun _ => by split <;> omega, fun _ _ => ?_⟩
    cases d <;> simp [a64_safe] <;> decide
  case descrypt => exact ⟨_, _, _, writes_des count rb n, fun _ => by omega, fun _ _ => by simp [a64_safe]⟩

theorem gensaltMethod_good (d : Bool) (m : Method) (count : Nat) (rb : Bytes) (n osize : Nat) :
    (gensaltMethod d m count rb n osize).good osize := by
  obtain ⟨_, _, _, hw, _⟩ := writes_method d m count rb n
  exact hw.good osize

/-- **every generated setting is passwd(5)-safe printable ASCII** (no `: ; * ! \`, no whitespace, no control or 8-bit bytes) -/
theorem gensaltMethod_safe (d : Bool) (m : Method) (count : Nat) (rb : Bytes) (n o : Nat) (S : Bytes) (e : Nat)
    (h : gensaltMethod d m count rb n o = .ok S e) : passwdSafe S = true := by
  obtain ⟨_, _, _, hw, _, hs⟩ := writes_method d m count rb n
  obtain ⟨hV, _, rfl⟩ := hw.ok h
  exact hs hV o

end Xc
