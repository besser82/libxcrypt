/-
  Injectivity of the digest encoders (C03): the text of a hash determines the digest bytes, so two phrases with the same
  hash under the same salt collide in the underlying function.
-/
import Xc.Lemmas.Enc
namespace Xc
open List

theorem sextets_inj : ∀ (n w w' : Nat), w < 64 ^ n → w' < 64 ^ n →
    (List.range n).map (fun i => a64 (w / 64 ^ i)) = (List.range n).map (fun i => a64 (w' / 64 ^ i)) → w = w' := by
  intro n
  induction n with
  | zero => intro w w' hw hw' _; simp at hw hw'; omega
  | succ n ih =>
    intro w w' hw hw' h
    rw [Nat.pow_succ] at hw hw'
    simp only [range_succ_eq_map, map_cons, map_map, cons.injEq, Nat.pow_zero, Nat.div_one] at h
    -- the sextets above the lowest are those of `w / 64`
    have := ih (w / 64) (w' / 64) (by omega) (by omega) (by
      simpa only [Function.comp_def, Nat.pow_succ, Nat.mul_comm _ 64, ← Nat.div_div_eq_div_mul] using h.2)
    have := a64_inj _ _ h.1
    omega

theorem byteAt_lt (d : Bytes) (i : Nat) : byteAt d i < 256 := by
  unfold byteAt; split
  · omega
  · exact (d.getD i 0).toNat_lt

/-- an entry of an output schedule whose sextets determine the bytes it names -/
def entryOk (e : Nat × Nat × Nat × Nat) : Bool :=
  e.2.2.2 == 4 || (e.2.2.2 == 3 && e.1 == 255) || (e.2.2.2 == 2 && e.1 == 255 && e.2.1 == 255)

theorem entry_inj (e : Nat × Nat × Nat × Nat) (hok : entryOk e = true) (d d' : Bytes)
    (h : b64from24 (byteAt d e.1) (byteAt d e.2.1) (byteAt d e.2.2.1) e.2.2.2 = b64from24 (byteAt d' e.1) (byteAt d' e.2.1) (byteAt d' e.2.2.1) e.2.2.2) :
    byteAt d e.1 = byteAt d' e.1 ∧ byteAt d e.2.1 = byteAt d' e.2.1 ∧ byteAt d e.2.2.1 = byteAt d' e.2.2.1 := by
  obtain ⟨a, b, c, n⟩ := e
  -- an entry with fewer than four sextets names the absent byte 255 in its high positions: the 24-bit value fits
  have hw : ∀ x : Bytes, byteAt x a * 65536 + byteAt x b * 256 + byteAt x c < 64 ^ n := by
    intro x
    have z : byteAt x 255 = 0 := by simp [byteAt]
    have := byteAt_lt x a; have := byteAt_lt x b; have := byteAt_lt x c
    simp only [entryOk, Bool.or_eq_true, Bool.and_eq_true, beq_iff_eq] at hok
    rcases hok with (rfl | ⟨rfl, rfl⟩) | ⟨⟨rfl, rfl⟩, rfl⟩ <;> simp only [z, Nat.reducePow] <;> omega
  have := sextets_inj n _ _ (hw d) (hw d') h
  have := byteAt_lt d a; have := byteAt_lt d b; have := byteAt_lt d c
  have := byteAt_lt d' a; have := byteAt_lt d' b; have := byteAt_lt d' c
  dsimp only
  omega

theorem flatMap_eq_pieces {α} (f g : α → Bytes) : ∀ (l : List α), (∀ x ∈ l, (f x).length = (g x).length) →
    l.flatMap f = l.flatMap g → ∀ x ∈ l, f x = g x := by
  intro l
  induction l with
  | nil => intro _ _ x hx; simp at hx
  | cons a as ih =>
    intro hlen h x hx
    simp only [flatMap_cons] at h
    have := append_inj h (hlen a (by simp))
    simp only [mem_cons] at hx
    rcases hx with rfl | hx
    · exact this.1
    · exact ih (fun y hy => hlen y (by simp [hy])) this.2 x hx

def covers (sched : List (Nat × Nat × Nat × Nat)) (L : Nat) : Bool :=
  (List.range L).all fun i => sched.any fun e => e.1 == i || e.2.1 == i || e.2.2.1 == i

/-- `L ≤ 255`: position 255 is the absent byte of `byteAt` -/
theorem permEncode_inj (sched : List (Nat × Nat × Nat × Nat)) (L : Nat) (hok : sched.all entryOk = true) (hcov : covers sched L = true)
    (hL : L ≤ 255) (d d' : Bytes) (hl : d.length = L) (hl' : d'.length = L) (h : permEncode sched d = permEncode sched d') : d = d' := by
  unfold permEncode at h
  have hp := flatMap_eq_pieces _ _ sched (by intro x _; simp [b64from24_length]) h
  apply ext_getElem (by omega)
  intro i h1 h2
  simp only [covers, all_eq_true, mem_range, any_eq_true, Bool.or_eq_true, beq_iff_eq] at hcov
  obtain ⟨e, he, hi⟩ := hcov i (by omega)
  have := entry_inj e (all_eq_true.mp hok e he) d d' (by have := hp e he; obtain ⟨a, b, c, n⟩ := e; exact this)
  have hb : ∀ (x : Bytes) (hx : i < x.length), byteAt x i = (x[i]).toNat := by
    intro x hx; unfold byteAt; rw [if_neg (by omega)]; simp [getD_eq_getElem?_getD, hx]
  have key : byteAt d i = byteAt d' i := by
    rcases hi with (hi | hi) | hi <;> subst hi
    · exact this.1
    · exact this.2.1
    · exact this.2.2
  rw [hb d h1, hb d' h2] at key
  exact UInt8.toNat_inj.mp key

theorem sha1Encode_inj (d d' : Bytes) (hl : d.length = 20) (hl' : d'.length = 20) (h : sha1Encode d = sha1Encode d') : d = d' := by
  rw [sha1Encode_eq, sha1Encode_eq] at h
  exact permEncode_inj sha1Sched 20 (by decide) (by decide) (by omega) d d' hl hl' h

/-! ### the DES / bcrypt / yescrypt digest encoders -/

theorem enc3_inj {α : Nat → UInt8} (hα : ∀ x y, x < 64 → y < 64 → α x = α y → x = y) :
    ∀ (x y : Bytes), x.length = y.length → enc3 α x = enc3 α y → x = y
  | [], [], _, _ => rfl
  | [a], [a'], _, h => by
    simp only [enc3, cons.injEq, and_true] at h
    have := a.toNat_lt; have := a'.toNat_lt
    have := hα _ _ (by omega) (by omega) h.1; have := hα _ _ (by omega) (by omega) h.2
    rw [UInt8.toNat_inj.mp (show a.toNat = a'.toNat by omega)]
  | [a, b], [a', b'], _, h => by
    simp only [enc3, cons.injEq, and_true] at h
    have := a.toNat_lt; have := a'.toNat_lt; have := b.toNat_lt; have := b'.toNat_lt
    have := hα _ _ (by omega) (by omega) h.1; have := hα _ _ (by omega) (by omega) h.2.1; have := hα _ _ (by omega) (by omega) h.2.2
    obtain ⟨ea, eb⟩ : a.toNat = a'.toNat ∧ b.toNat = b'.toNat := by omega
    rw [UInt8.toNat_inj.mp ea, UInt8.toNat_inj.mp eb]
  | a :: b :: c :: rest, a' :: b' :: c' :: rest', hl, h => by
    simp only [enc3, cons_append, nil_append, cons.injEq] at h
    have := a.toNat_lt; have := a'.toNat_lt; have := b.toNat_lt; have := b'.toNat_lt; have := c.toNat_lt; have := c'.toNat_lt
    have := hα _ _ (by omega) (by omega) h.1; have := hα _ _ (by omega) (by omega) h.2.1
    have := hα _ _ (by omega) (by omega) h.2.2.1; have := hα _ _ (by omega) (by omega) h.2.2.2.1
    obtain ⟨ea, eb, ec⟩ : a.toNat = a'.toNat ∧ b.toNat = b'.toNat ∧ c.toNat = c'.toNat := by omega
    rw [UInt8.toNat_inj.mp ea, UInt8.toNat_inj.mp eb, UInt8.toNat_inj.mp ec, enc3_inj hα rest rest' (by simpa using hl) h.2.2.2.2]
  | [], _ :: _, hl, _ | _ :: _, [], hl, _ | [_], _ :: _ :: _, hl, _ | _ :: _ :: _, [_], hl, _
  | [_, _], _ :: _ :: _ :: _, hl, _ | _ :: _ :: _ :: _, [_, _], hl, _ => by simp at hl

theorem desEncode_inj : ∀ (x y : Bytes), x.length = y.length → desEncode x = desEncode y → x = y := by
  intro x y hl h; rw [desEncode_eq, desEncode_eq] at h
  exact enc3_inj (fun x y hx hy h => by have := a64_inj x y h; omega) x y hl h

theorem bfEncode_inj : ∀ (x y : Bytes), x.length = y.length → bfEncode x = bfEncode y → x = y := by
  intro x y hl h; rw [bfEncode_eq, bfEncode_eq] at h
  exact enc3_inj (fun x y hx hy h => by have := bf64_inj x y h; omega) x y hl h

theorem enc64Group_inj (g g' : Bytes) (hl : g.length = g'.length) (h3 : g.length ≤ 3) (hne : 0 < g.length)
    (h : enc64Group g = enc64Group g') : rbAt g 0 + rbAt g 1 * 256 + rbAt g 2 * 65536 = rbAt g' 0 + rbAt g' 1 * 256 + rbAt g' 2 * 65536 := by
  unfold enc64Group at h
  simp only [] at h
  rw [← hl] at h
  -- 1, 2, 3 bytes give 2, 3, 4 sextets, and the value of `k` bytes is below `64 ^ (k + 1)`
  have hw : ∀ x : Bytes, x.length = g.length → rbAt x 0 + rbAt x 1 * 256 + rbAt x 2 * 65536 < 64 ^ ((8 * g.length + 5) / 6) := by
    intro x hx
    have b0 : ∀ i, rbAt x i < 256 := fun i => by unfold rbAt; exact (x.getD i 0).toNat_lt
    have z : ∀ i, x.length ≤ i → rbAt x i = 0 := by
      intro i hi; unfold rbAt; simp [getD_eq_getElem?_getD, getElem?_eq_none hi]
    have := b0 0; have := b0 1; have := b0 2
    have l1 : g.length = 1 ∨ g.length = 2 ∨ g.length = 3 := by omega
    rcases l1 with e | e | e <;> rw [e] at hx ⊢ <;> simp only [Nat.reduceMul, Nat.reduceAdd, Nat.reduceDiv, Nat.reducePow]
    · have := z 1 (by omega); have := z 2 (by omega); omega
    · have := z 2 (by omega); omega
    · omega
  exact sextets_inj _ _ _ (hw g rfl) (hw g' hl.symm) h

theorem encode64_inj : ∀ (x y : Bytes), x.length = y.length → encode64 x = encode64 y → x = y
  | [], [], _, _ => rfl
  | [a], [a'], _, h => by
    simp only [encode64] at h
    have := enc64Group_inj [a] [a'] rfl (by simp) (by simp) h
    simp [rbAt] at this
    rw [UInt8.toNat_inj.mp this]
  | [a, b], [a', b'], _, h => by
    simp only [encode64] at h
    have := enc64Group_inj [a, b] [a', b'] rfl (by simp) (by simp) h
    simp [rbAt] at this
    have := a.toNat_lt; have := a'.toNat_lt; have := b.toNat_lt; have := b'.toNat_lt
    obtain ⟨ea, eb⟩ : a.toNat = a'.toNat ∧ b.toNat = b'.toNat := by omega
    rw [UInt8.toNat_inj.mp ea, UInt8.toNat_inj.mp eb]
  | a :: b :: c :: rest, a' :: b' :: c' :: rest', hl, h => by
    simp only [encode64] at h
    obtain ⟨h1, h2⟩ := append_inj h (by simp [enc64Group_length])
    have := enc64Group_inj [a, b, c] [a', b', c'] rfl (by simp) (by simp) h1
    simp [rbAt] at this
    have := a.toNat_lt; have := a'.toNat_lt; have := b.toNat_lt; have := b'.toNat_lt; have := c.toNat_lt; have := c'.toNat_lt
    obtain ⟨ea, eb, ec⟩ : a.toNat = a'.toNat ∧ b.toNat = b'.toNat ∧ c.toNat = c'.toNat := by omega
    rw [UInt8.toNat_inj.mp ea, UInt8.toNat_inj.mp eb, UInt8.toNat_inj.mp ec, encode64_inj rest rest' (by simpa using hl) h2]
  | [], _ :: _, hl, _ | _ :: _, [], hl, _ | [_], _ :: _ :: _, hl, _ | _ :: _ :: _, [_], hl, _
  | [_, _], _ :: _ :: _ :: _, hl, _ | _ :: _ :: _ :: _, [_, _], hl, _ => by simp at hl

end Xc
