/-
  Words and bit-selection tables, for the DES theorems (C17): a map that turns `|||` into some operation is determined by its values
  on 0 and the powers of two (`or_ext`, with word and block forms); the big-endian packing round trip; what the selection tables
  `gather`/`gatherN` of Spec/DesTables.lean do bit by bit, and that they distribute over OR.
-/
import Xc.Prim.Bits
import Xc.Spec.DesTables
namespace Xc
theorem cases32 {i : Nat} (h : i < 32) : i = 0 ∨ i = 1 ∨ i = 2 ∨ i = 3 ∨ i = 4 ∨ i = 5 ∨ i = 6 ∨ i = 7 ∨ i = 8 ∨ i = 9 ∨ i = 10 ∨ i = 11 ∨ i = 12 ∨
    i = 13 ∨ i = 14 ∨ i = 15 ∨ i = 16 ∨ i = 17 ∨ i = 18 ∨ i = 19 ∨ i = 20 ∨ i = 21 ∨ i = 22 ∨ i = 23 ∨ i = 24 ∨ i = 25 ∨ i = 26 ∨ i = 27 ∨
    i = 28 ∨ i = 29 ∨ i = 30 ∨ i = 31 := by omega
theorem cases8 {i : Nat} (h : i < 8) : i = 0 ∨ i = 1 ∨ i = 2 ∨ i = 3 ∨ i = 4 ∨ i = 5 ∨ i = 6 ∨ i = 7 := by omega

theorem and_or_right (a b m : UInt32) : (a ||| b) &&& m = a &&& m ||| b &&& m :=
  UInt32.toBitVec_inj.1 BitVec.and_or_distrib_right

theorem and_lt (w m : UInt32) (k : Nat) (hm : m.toNat < 2 ^ k) : (w &&& m).toNat < 2 ^ k := by
  rw [UInt32.toNat_and]; exact Nat.and_lt_two_pow _ hm

/-! ### maps that turn OR into an operation `op` -/

theorem or_ext {β : Type} {op : β → β → β} {F G : Nat → β} (n : Nat)
    (hF : ∀ a b, a < 2 ^ n → b < 2 ^ n → F (a ||| b) = op (F a) (F b))
    (hG : ∀ a b, a < 2 ^ n → b < 2 ^ n → G (a ||| b) = op (G a) (G b))
    (h0 : F 0 = G 0) (h : ∀ k, k < n → F (2 ^ k) = G (2 ^ k)) : ∀ x, x < 2 ^ n → F x = G x := by
  suffices ∀ m, m ≤ n → ∀ x, x < 2 ^ m → F x = G x from this n (Nat.le_refl n)
  intro m
  induction m with
  | zero => intro _ x hx; rw [show x = 0 by omega, h0]
  | succ m ih =>
    intro hm x hx
    by_cases hlt : x < 2 ^ m
    · exact ih (by omega) x hlt
    · have hm' : 2 ^ m < 2 ^ n := Nat.pow_lt_pow_right (by decide) hm
      have hy : x - 2 ^ m < 2 ^ m := by rw [Nat.pow_succ] at hx; omega
      have e : x = 2 ^ m ||| (x - 2 ^ m) := by
        have := Nat.two_pow_add_eq_or_of_lt hy 1
        rw [Nat.mul_one] at this; omega
      rw [e, hF _ _ hm' (by omega), hG _ _ hm' (by omega), h m hm, ih (by omega) _ hy]

theorem or_ext32 {β : Type} {op : β → β → β} {f g : UInt32 → β}
    (hf : ∀ a b, f (a ||| b) = op (f a) (f b)) (hg : ∀ a b, g (a ||| b) = op (g a) (g b))
    (h0 : f 0 = g 0) (h : ∀ k : Fin 32, f (UInt32.ofNat (2 ^ k.val)) = g (UInt32.ofNat (2 ^ k.val))) (x : UInt32) : f x = g x := by
  have := or_ext (F := fun a => f (UInt32.ofNat a)) (G := fun a => g (UInt32.ofNat a)) (op := op) 32
    (fun a b _ _ => by simp only [UInt32.ofNat_or, hf]) (fun a b _ _ => by simp only [UInt32.ofNat_or, hg]) h0
    (fun k hk => h ⟨k, hk⟩) x.toNat x.toNat_lt
  simpa using this

def por (p q : UInt32 × UInt32) : UInt32 × UInt32 := (p.1 ||| q.1, p.2 ||| q.2)

theorem or_ext64 {β : Type} {op : β → β → β} {f g : UInt32 × UInt32 → β}
    (hf : ∀ p q, f (por p q) = op (f p) (f q)) (hg : ∀ p q, g (por p q) = op (g p) (g q))
    (h0 : f (0, 0) = g (0, 0))
    (hl : ∀ k : Fin 32, f (UInt32.ofNat (2 ^ k.val), 0) = g (UInt32.ofNat (2 ^ k.val), 0))
    (hr : ∀ k : Fin 32, f (0, UInt32.ofNat (2 ^ k.val)) = g (0, UInt32.ofNat (2 ^ k.val))) (p : UInt32 × UInt32) : f p = g p := by
  have e : p = por (p.1, 0) (0, p.2) := by simp [por]
  have l := or_ext32 (f := fun a => f (a, 0)) (g := fun a => g (a, 0)) (op := op)
    (fun a b => by rw [← hf]; simp [por]) (fun a b => by rw [← hg]; simp [por]) h0 hl p.1
  have r := or_ext32 (f := fun a => f (0, a)) (g := fun a => g (0, a)) (op := op)
    (fun a b => by rw [← hf]; simp [por]) (fun a b => by rw [← hg]; simp [por]) h0 hr p.2
  rw [e, hf, hg, l, r]

/-! ### big-endian packing -/

/-- about variables: `ac_rfl` on the goals themselves, whose atoms carry large numerals, times out in instance search -/
theorem or4_or4 (a b c d a' b' c' d' : UInt32) :
    (a ||| a') ||| (b ||| b') ||| (c ||| c') ||| (d ||| d') = (a ||| b ||| c ||| d) ||| (a' ||| b' ||| c' ||| d') := by
  ac_rfl

theorem be32_of_bytes (a : UInt32) :
    ((a >>> 24).toUInt8.toUInt32 <<< 24) ||| ((a >>> 16).toUInt8.toUInt32 <<< 16) ||| ((a >>> 8).toUInt8.toUInt32 <<< 8) ||| a.toUInt8.toUInt32 = a :=
  or_ext32 (g := id)
    (f := fun a => ((a >>> 24).toUInt8.toUInt32 <<< 24) ||| ((a >>> 16).toUInt8.toUInt32 <<< 16) ||| ((a >>> 8).toUInt8.toUInt32 <<< 8) ||| a.toUInt8.toUInt32)
    (fun a b => by
      simp only [UInt32.shiftRight_or, UInt32.toUInt8_or, UInt8.toUInt32_or, UInt32.shiftLeft_or]
      exact or4_or4 _ _ _ _ _ _ _ _)
    (fun _ _ => rfl) (by decide) (by decide) a

theorem be32_toBe32 (a b : UInt32) : be32 (toBe32 a ++ toBe32 b) 0 = a ∧ be32 (toBe32 a ++ toBe32 b) 4 = b := by
  constructor
  · simp only [be32, toBe32, List.cons_append, List.nil_append, List.getD_cons_zero, List.getD_cons_succ]
    exact be32_of_bytes a
  · simp only [be32, toBe32, List.cons_append, List.nil_append, List.getD_cons_zero, List.getD_cons_succ]
    exact be32_of_bytes b

theorem byte_of_be32 (x0 x1 x2 x3 : UInt8) :
    (((x0.toUInt32 <<< 24) ||| (x1.toUInt32 <<< 16) ||| (x2.toUInt32 <<< 8) ||| x3.toUInt32) >>> 24).toUInt8 = x0 ∧
    (((x0.toUInt32 <<< 24) ||| (x1.toUInt32 <<< 16) ||| (x2.toUInt32 <<< 8) ||| x3.toUInt32) >>> 16).toUInt8 = x1 ∧
    (((x0.toUInt32 <<< 24) ||| (x1.toUInt32 <<< 16) ||| (x2.toUInt32 <<< 8) ||| x3.toUInt32) >>> 8).toUInt8 = x2 ∧
    ((x0.toUInt32 <<< 24) ||| (x1.toUInt32 <<< 16) ||| (x2.toUInt32 <<< 8) ||| x3.toUInt32).toUInt8 = x3 := by
  refine ⟨?_, ?_, ?_, ?_⟩
  all_goals apply UInt8.eq_of_toBitVec_eq
  all_goals ext i hi
  all_goals rcases cases8 hi with rfl | rfl | rfl | rfl | rfl | rfl | rfl | rfl
  all_goals simp

theorem toBe32_be32 (x0 x1 x2 x3 x4 x5 x6 x7 : UInt8) :
    toBe32 (be32 [x0, x1, x2, x3, x4, x5, x6, x7] 0) ++ toBe32 (be32 [x0, x1, x2, x3, x4, x5, x6, x7] 4) = [x0, x1, x2, x3, x4, x5, x6, x7] := by
  simp only [be32, toBe32, List.getD_cons_zero, List.getD_cons_succ, List.cons_append, List.nil_append]
  obtain ⟨a0, a1, a2, a3⟩ := byte_of_be32 x0 x1 x2 x3
  obtain ⟨b0, b1, b2, b3⟩ := byte_of_be32 x4 x5 x6 x7
  rw [a0, a1, a2, a3, b0, b1, b2, b3]

/-! ### the selection tables of Spec/DesTables.lean -/
namespace Spec.DesT

theorem foldl_or_testBit (d : Nat → UInt32) (k : Nat) : ∀ (l : List Nat) (a : UInt32),
    (l.foldl (fun acc i => acc ||| d i) a).toNat.testBit k = (a.toNat.testBit k || l.any fun i => (d i).toNat.testBit k)
  | [], a => by simp
  | i :: l, a => by simp [foldl_or_testBit d k l, Bool.or_assoc]

theorem foldl_or_or (u v : Nat → UInt32) : ∀ (l : List Nat) (x y : UInt32),
    l.foldl (fun acc i => acc ||| (u i ||| v i)) (x ||| y) = l.foldl (fun acc i => acc ||| u i) x ||| l.foldl (fun acc i => acc ||| v i) y
  | [], _, _ => rfl
  | i :: l, x, y => by
    simp only [List.foldl_cons]
    rw [← foldl_or_or u v l]
    congr 1
    ac_rfl

/-- what `gather` and `gatherN` have in common: the `i`-th selected bit goes to position `len - 1 - i` -/
def asm (len : Nat) (c : Nat → UInt32) : UInt32 :=
  (List.range len).foldl (fun acc i => acc ||| (c i <<< (len - 1 - i).toUInt32)) 0

theorem asm_or (len : Nat) (c c' : Nat → UInt32) : asm len (fun i => c i ||| c' i) = asm len c ||| asm len c' := by
  unfold asm
  simp only [UInt32.shiftLeft_or]
  exact foldl_or_or _ _ _ 0 0

theorem asm_testBit (len : Nat) (hl : len ≤ 32) (p : Nat → Bool) (k : Nat) :
    (asm len fun i => if p i then 1 else 0).toNat.testBit k = (decide (k < len) && p (len - 1 - k)) := by
  have term : ∀ i, i < len →
      ((if p i then (1 : UInt32) else 0) <<< (len - 1 - i).toUInt32).toNat.testBit k = (decide (k = len - 1 - i) && p i) := by
    intro i hi
    have hs : (len - 1 - i).toUInt32.toNat % 32 = len - 1 - i := by
      rw [Nat.toUInt32_eq, UInt32.toNat_ofNat']; omega
    rw [UInt32.toNat_shiftLeft, hs]
    cases p i
    · simp
    · have : 2 ^ (len - 1 - i) < 2 ^ 32 := Nat.pow_lt_pow_right (by decide) (by omega)
      simp [Nat.one_shiftLeft, Nat.mod_eq_of_lt this, Nat.testBit_two_pow, eq_comm]
  unfold asm
  rw [foldl_or_testBit, Bool.eq_iff_iff]
  simp only [UInt32.toNat_zero, Nat.zero_testBit, Bool.false_or, List.any_eq_true, List.mem_range, Bool.and_eq_true, decide_eq_true_eq]
  constructor
  · rintro ⟨i, hi, h⟩
    rw [term i hi, Bool.and_eq_true, decide_eq_true_eq] at h
    obtain ⟨rfl, hp⟩ := h
    exact ⟨by omega, by rwa [show len - 1 - (len - 1 - i) = i by omega]⟩
  · rintro ⟨hk, hp⟩
    refine ⟨len - 1 - k, by omega, ?_⟩
    rw [term _ (by omega), Bool.and_eq_true, decide_eq_true_eq]
    exact ⟨by omega, hp⟩

theorem bitAt_eq (n : Nat) (w : UInt32) (j : Nat) : bitAt n w j = if w.toNat.testBit ((n - j) % 32) then 1 else 0 := by
  unfold bitAt
  apply UInt32.toNat_inj.mp
  have h1 : (1 : UInt32).toNat = 2 ^ 1 - 1 := rfl
  rw [UInt32.toNat_and, UInt32.toNat_shiftRight, h1, Nat.and_two_pow_sub_one_eq_mod, Nat.toUInt32_eq, UInt32.toNat_ofNat',
    show (n - j) % 2 ^ 32 % 32 = (n - j) % 32 by omega, Nat.testBit, Nat.one_and_eq_mod_two]
  generalize w.toNat >>> ((n - j) % 32) = x
  rcases Nat.mod_two_eq_zero_or_one x with h | h <;> simp [h]

theorem bitAt_or (n : Nat) (a b : UInt32) (j : Nat) : bitAt n (a ||| b) j = bitAt n a j ||| bitAt n b j := by
  unfold bitAt
  rw [UInt32.shiftRight_or, and_or_right]

theorem bitAtN_or (h : Nat) (l l' r r' : UInt32) (j : Nat) : bitAtN h (l ||| l') (r ||| r') j = bitAtN h l r j ||| bitAtN h l' r' j := by
  unfold bitAtN; split <;> exact bitAt_or _ _ _ _

/-- for a FIPS table (entries in 1…n, n ≤ 32) the `% 32` does nothing -/
theorem gather_testBit (tbl : List Nat) (h : tbl.length ≤ 32) (n : Nat) (w : UInt32) (k : Nat) :
    (gather tbl n w).toNat.testBit k = (decide (k < tbl.length) && w.toNat.testBit ((n - tbl.getD (tbl.length - 1 - k) 0) % 32)) := by
  have : gather tbl n w = asm tbl.length fun i => bitAt n w (tbl.getD i 0) := rfl
  rw [this]
  simp only [bitAt_eq]
  exact asm_testBit _ h _ k

theorem gather_lt (tbl : List Nat) (h : tbl.length ≤ 32) (n : Nat) (w : UInt32) : (gather tbl n w).toNat < 2 ^ tbl.length := by
  apply Nat.lt_pow_two_of_testBit
  intro i hi
  rw [gather_testBit tbl h, decide_eq_false (by omega), Bool.false_and]

theorem bitAtN_eq (h : Nat) (l r : UInt32) (j : Nat) :
    bitAtN h l r j = if (if j ≤ h then l.toNat.testBit ((h - j) % 32) else r.toNat.testBit ((h - (j - h)) % 32)) then 1 else 0 := by
  unfold bitAtN
  split <;> exact bitAt_eq _ _ _

theorem gatherN_testBit (h : Nat) (tbl : List Nat) (ht : tbl.length ≤ 32) (l r : UInt32) (k : Nat) :
    (gatherN h tbl l r).toNat.testBit k = (decide (k < tbl.length) &&
      if tbl.getD (tbl.length - 1 - k) 0 ≤ h then l.toNat.testBit ((h - tbl.getD (tbl.length - 1 - k) 0) % 32)
      else r.toNat.testBit ((h - (tbl.getD (tbl.length - 1 - k) 0 - h)) % 32)) := by
  have : gatherN h tbl l r = asm tbl.length fun i => bitAtN h l r (tbl.getD i 0) := rfl
  rw [this]
  simp only [bitAtN_eq]
  exact asm_testBit _ ht _ k

theorem gatherN_lt (h : Nat) (tbl : List Nat) (ht : tbl.length ≤ 32) (l r : UInt32) : (gatherN h tbl l r).toNat < 2 ^ tbl.length := by
  apply Nat.lt_pow_two_of_testBit
  intro i hi
  rw [gatherN_testBit h tbl ht, decide_eq_false (by omega), Bool.false_and]

theorem gather_or (tbl : List Nat) (n : Nat) (a b : UInt32) : gather tbl n (a ||| b) = gather tbl n a ||| gather tbl n b := by
  have e : ∀ w, gather tbl n w = asm tbl.length fun i => bitAt n w (tbl.getD i 0) := fun _ => rfl
  simp only [e, bitAt_or, asm_or]

theorem gatherN_or (h : Nat) (tbl : List Nat) (l l' r r' : UInt32) :
    gatherN h tbl (l ||| l') (r ||| r') = gatherN h tbl l r ||| gatherN h tbl l' r' := by
  have e : ∀ l r, gatherN h tbl l r = asm tbl.length fun i => bitAtN h l r (tbl.getD i 0) := fun _ _ => rfl
  simp only [e, bitAtN_or, asm_or]

theorem selN_or (h : Nat) (tbl : List Nat) (k : Nat) (p q : UInt32 × UInt32) : selN h tbl k (por p q) = por (selN h tbl k p) (selN h tbl k q) := by
  unfold selN por
  simp only [gatherN_or]

end Spec.DesT
end Xc
