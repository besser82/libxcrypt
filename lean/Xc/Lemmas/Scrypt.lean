/-
  scrypt (`$7$`): the round trip of crypt_scrypt_rn (C01).  The part of the setting that the result keeps consists of salt
  characters, so `verify_salt` accepts it followed by `$` and any `$`-free text over the salt alphabet.
-/
import Xc.Lemmas.YesParse
namespace Xc
open List

def validFrom (s : Bytes) (i : Nat) : Prop := ∀ j, i ≤ j → j < s.length → scryptSaltChar (cat s j) = true

theorem verify_go_valid (s : Bytes) : ∀ fuel i, validFrom s i → scryptVerifySalt.go s fuel i = true := by
  intro fuel
  induction fuel with
  | zero => intro i _; simp [scryptVerifySalt.go]
  | succ f ih =>
    intro i hv
    simp only [scryptVerifySalt.go]
    split
    · rename_i hlt
      have := hv i (Nat.le_refl _) hlt
      simp only [this, not_true_eq_false, if_false]
      exact ih (i + 1) (fun j h1 h2 => hv j (by omega) h2)
    · rfl

theorem verify_of_valid (s : Bytes) (h : validFrom s 14) : scryptVerifySalt s = true := by
  unfold scryptVerifySalt; exact verify_go_valid s _ 14 h

theorem verify_go_spec (s : Bytes) : ∀ fuel i, s.length < i + fuel → scryptVerifySalt.go s fuel i = true →
    validFrom s i ∨ ∃ k, i ≤ k ∧ k < s.length ∧ (∀ j, i ≤ j → j < k → scryptSaltChar (cat s j) = true) ∧
      scryptSaltChar (cat s k) = false ∧ cat s (k - 1) = 36 ∧ (36 : UInt8) ∉ s.drop k := by
  intro fuel
  induction fuel with
  | zero => intro i hl _; left; intro j h1 h2; omega
  | succ f ih =>
    intro i hl h
    simp only [scryptVerifySalt.go] at h
    split at h
    · rename_i hlt
      split at h
      · rename_i hbad
        right
        simp only [Bool.and_eq_true, beq_iff_eq, Bool.not_eq_true', List.contains_eq_mem, decide_eq_false_iff_not] at h
        refine ⟨i, Nat.le_refl _, hlt, fun j h1 h2 => by omega, by simpa using hbad, h.1, h.2⟩
      · rename_i hok
        simp only [Bool.not_eq_true, Bool.not_eq_false] at hok
        rcases ih (i + 1) (by omega) h with hv | ⟨k, hk1, hk2, hk3, hk4, hk5, hk6⟩
        · exact .inl fun j h1 h2 => if e : j = i then e ▸ hok else hv j (by omega) h2
        · exact .inr ⟨k, by omega, hk2, fun j h1 h2 => if e : j = i then e ▸ hok else hk3 j (by omega) h2, hk4, hk5, hk6⟩
    · left; intro j h1 h2; omega

theorem verify_ySl {s : Bytes} (hv : scryptVerifySalt s = true) (h13 : cat s 13 ≠ 36) :
    ∀ j, 14 ≤ j → j < 14 + ySl s 14 → scryptSaltChar (cat s j) = true := by
  intro j hj1 hj2
  unfold scryptVerifySalt at hv
  rcases verify_go_spec s (s.length + 1) 14 (by omega) hv with hv | ⟨i, hi1, hi2, hi3, _, hi5, hi6⟩
  · have := ySl_le s 14
    rw [List.length_drop] at this
    exact hv j hj1 (by omega)
  · -- the first character outside the alphabet follows the last `$`, which is not the one at 13
    have hi15 : 15 ≤ i := by
      rcases Nat.eq_or_lt_of_le hi1 with e | e
      · subst e; exact absurd hi5 h13
      · omega
    have : ySl s 14 = i - 15 := by
      unfold ySl
      rw [strrchr_eq_some (k := i - 15) (by rw [List.length_drop]; omega)
        (by rw [cat_drop, show 14 + (i - 15) = i - 1 by omega]; exact hi5)
        (by rw [List.drop_drop, show 14 + (i - 15 + 1) = i by omega]; exact hi6)]
    exact hi3 j hj1 (by omega)

theorem cryptScrypt_refeed {D : Digests} {p s H : Bytes} (h : cryptScrypt D p s = .ok H) :
    ∃ k hd, 14 ≤ k ∧ k ≤ s.length ∧ H = s.take k ++ 36 :: encode64 hd ∧
      ∀ t : Bytes, (∀ c ∈ t, scryptSaltChar c = true) → (36 : UInt8) ∉ t → cryptScrypt D p (s.take k ++ 36 :: t) = .ok H := by
  obtain ⟨hpre, hver, hR⟩ := cryptScrypt_ok.mp h
  obtain ⟨Q, hd, hQ, _, _, hle, e, f⟩ := yescryptR_struct hR
  obtain ⟨P, pl, hP, hF⟩ := parseYescrypt_ok.mp hQ
  obtain ⟨rfl, hval, _⟩ := yParams7_spec hP (hasPrefix_cat hpre 1 (by decide))
  obtain ⟨_, epl, esl, _, _⟩ := yFinish_inv hF
  rw [epl, esl] at hle e f
  have hvalid := verify_ySl hver (yAtoi_valid_ne_36 (hval 13 (by omega) (by omega)))
  have hl : (s.take (14 + ySl s 14)).length = 14 + ySl s 14 := by rw [List.length_take]; omega
  refine ⟨14 + ySl s 14, hd, by omega, hle, e, fun t htv ht36 => cryptScrypt_ok.mpr
    ⟨hasPrefix_take_append hpre _ _ (by simp; omega), verify_of_valid _ fun j hj1 hj2 => ?_, f t ht36⟩⟩
  by_cases hlt : j < 14 + ySl s 14
  · rw [cat_take_append s _ _ j hlt hle]; exact hvalid j hj1 hlt
  · rw [cat_append_right _ _ _ (by omega)]
    rw [List.length_append, List.length_cons] at hj2
    rcases List.mem_cons.mp (cat_mem (l := 36 :: t) (i := j - (s.take (14 + ySl s 14)).length) (by rw [List.length_cons]; omega)) with e36 | hm
    · rw [e36]; decide
    · exact htv _ hm

theorem cryptScrypt_fix (D : Digests) (p s H : Bytes) (h : cryptScrypt D p s = .ok H) : cryptScrypt D p H = .ok H := by
  obtain ⟨k, hd, _, _, e, f⟩ := cryptScrypt_refeed h
  have := f (encode64 hd) (encode64_valid hd) (encode64_no36 hd)
  rwa [← e] at this

end Xc
