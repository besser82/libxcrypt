/-
  bigcrypt's segment loop: every segment is one DES hash of 11 characters whose first two characters salt the next one,
  so equality of two segment strings is a DES collision at every segment (C03).
-/
import Xc.Lemmas.Inj
namespace Xc
open List

def segSalt (h : Bytes) : Nat := (asciiToBin (h.getD 0 0)).getD 0 + (asciiToBin (h.getD 1 0)).getD 0 * 64

theorem bigSegments_succ (D : Digests) (f : Nat) (p : Bytes) (salt : Nat) : bigSegments D (f + 1) p salt =
    desEncode (D.desHash (desKey p) salt 25) ++
      if (p.drop 8).isEmpty then [] else bigSegments D f (p.drop 8) (segSalt (desEncode (D.desHash (desKey p) salt 25))) := by
  simp only [bigSegments, segSalt]; split <;> simp

theorem bigSegments_spec (D : Digests) (hD : D.WF) : ∀ fuel (p : Bytes) salt,
    bigSegments D fuel p salt ⊆ Gen.ascii64 ∧ (bigSegments D fuel p salt).length ≤ 11 * fuel := by
  intro fuel
  induction fuel with
  | zero => intro p salt; simp [bigSegments]
  | succ f ih =>
    intro p salt
    rw [bigSegments_succ, length_append, desEncode_length8 _ (hD.des (desKey p) salt 25), append_subset]
    split
    · exact ⟨⟨desEncode_subset _, nil_subset _⟩, by simp; omega⟩
    · exact ⟨⟨desEncode_subset _, (ih _ _).1⟩, by have := (ih (p.drop 8) (segSalt (desEncode (D.desHash (desKey p) salt 25)))).2; omega⟩

theorem bigSegments_len_ge (D : Digests) (hD : D.WF) (fuel : Nat) (p : Bytes) (salt : Nat) :
    11 ≤ (bigSegments D (fuel + 1) p salt).length := by
  rw [bigSegments_succ, length_append, desEncode_length8 _ (hD.des (desKey p) salt 25)]; omega

theorem bigSegments_take11 (D : Digests) (hD : D.WF) (f : Nat) (p : Bytes) (salt : Nat) :
    (bigSegments D (f + 1) p salt).take 11 = desEncode (D.desHash (desKey p) salt 25) := by
  rw [bigSegments_succ]; exact take_left' (desEncode_length8 _ (hD.des _ _ _))

/-- segment-wise collision: what equality of two bigcrypt segment strings means.  At each of the (at most 16) segments the two
    8-byte keys collide under the segment's salt; both phrases end at the same segment, except that at the last segment
    (`fuel = 1`) one of them may go on: bytes beyond 128 are not read. -/
def SegColl (D : Digests) : Nat → Bytes → Bytes → Nat → Prop
  | 0, _, _, _ => True
  | fuel + 1, p, p', salt =>
    D.desHash (desKey p) salt 25 = D.desHash (desKey p') salt 25 ∧
    (((p.drop 8).isEmpty = (p'.drop 8).isEmpty) ∨ fuel = 0) ∧
    ((p.drop 8).isEmpty = false → (p'.drop 8).isEmpty = false →
      ∃ salt', SegColl D fuel (p.drop 8) (p'.drop 8) salt')

theorem bigSegments_coll (D : Digests) (hD : D.WF) : ∀ (fuel : Nat) (p p' : Bytes) (salt : Nat),
    bigSegments D fuel p salt = bigSegments D fuel p' salt → SegColl D fuel p p' salt := by
  intro fuel
  induction fuel with
  | zero => intro p p' salt _; trivial
  | succ f ih =>
    intro p p' salt h
    rw [bigSegments_succ, bigSegments_succ] at h
    obtain ⟨hh, hr⟩ := append_inj h (by rw [desEncode_length8 _ (hD.des _ _ _), desEncode_length8 _ (hD.des _ _ _)])
    rw [← hh] at hr
    have hnil : ∀ q s, bigSegments D f q s = [] → f = 0 := by
      intro q s e
      cases f with
      | zero => rfl
      | succ k => have := bigSegments_len_ge D hD k q s; rw [e] at this; simp at this
    refine ⟨desEncode_inj _ _ (by rw [hD.des, hD.des]) hh, ?_, fun e1 e2 => ?_⟩
    · cases e1 : (p.drop 8).isEmpty <;> cases e2 : (p'.drop 8).isEmpty <;> simp only [e1, e2, if_true, if_false, Bool.false_eq_true] at hr
      · exact Or.inl rfl
      · exact Or.inr (hnil _ _ hr)
      · exact Or.inr (hnil _ _ hr.symm)
      · exact Or.inl rfl
    · simp only [e1, e2, Bool.false_eq_true, if_false] at hr
      exact ⟨_, ih _ _ _ hr⟩

end Xc
