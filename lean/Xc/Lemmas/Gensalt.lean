/-
  Elementary facts about the numbers the `gensalt_*_rn` writers compute: the digit-counting loop of `gensalt_sha_rn` and the bounds
  of the clamped counts.
-/
import Xc.Gensalt
import Xc.Lemmas.Dec
namespace Xc

/-- every `ceiling *= 10` of the loop in `gensalt_sha_rn` accounts for one more decimal digit of `count` -/
theorem ceilingSteps_go (c : Nat) : ∀ f k acc, ceilingSteps.go c f (10 ^ (k + 1)) acc + 1 = acc + ndF (f + 1) (c / 10 ^ k) := by
  intro f
  induction f with
  | zero => intro k acc; simp [ceilingSteps.go, ndF]
  | succ f ih =>
    intro k acc
    have hp := Nat.pow_pos (n := k + 1) (show 0 < 10 by decide)
    rw [ceilingSteps.go, ndF_step (f + 1) (c / 10 ^ k), Nat.div_div_eq_div_mul, show 10 ^ k * 10 = 10 ^ (k + 1) from (Nat.pow_succ ..).symm]
    by_cases hc : c / 10 ^ (k + 1) = 0
    · rw [if_neg (by rw [Nat.div_eq_zero_iff] at hc; omega), if_pos hc]
    · rw [if_pos (by rw [Nat.div_eq_zero_iff] at hc; omega), if_neg hc, ← Nat.pow_succ, ih]; omega

theorem ceilingSteps_eq (c : Nat) (h : c < 10 ^ 20) : ceilingSteps c + 1 = (toDec c).length := by
  have := ceilingSteps_go c 20 0 0
  rw [Nat.pow_zero, Nat.div_one, ndF_fuel 19 20 c h (by omega)] at this
  rw [toDec, decDigits_length]
  simpa [ceilingSteps] using this

theorem shaClamp_le (d mn mx c : Nat) : shaClamp d mn mx c ≤ mx := by
  unfold shaClamp; simp only []
  repeat' split
  all_goals omega

theorem shaClamp_ge (d mn mx c : Nat) (hmm : mn ≤ mx) : mn ≤ shaClamp d mn mx c := by
  unfold shaClamp; simp only []
  repeat' split
  all_goals omega

/-- at least the documented minimum, and at most `SUNMD5_MAX_ROUNDS - 4096`, so that crypt's `4096 + count` does not wrap -/
theorem sunmd5Count_bounds (count : Nat) (rb : Bytes) :
    32768 ≤ sunmd5Count count rb ∧ sunmd5Count count rb ≤ 4294963199 := by
  have hm : Gen.SUNMD5_MAX_ROUNDS = 4294967295 := by decide
  unfold sunmd5Count; rw [hm]; simp only []
  repeat' split
  all_goals omega

theorem sha1Rounds_lt (count : Nat) (rb : Bytes) : sha1Rounds count rb < 4294967296 := by
  unfold sha1Rounds
  simp only []
  omega

end Xc
