/-
  The front-ends of `Xc/Crypt.lean` read backwards.  For each `crypt_*_rn` one lemma `cryptX_ok` says what a successful
  call amounts to: the parser's result and the string assembled from it; the later proofs use these instead of unfolding
  the definitions.  The `_err` lemmas do the same for failure: the only error codes are EINVAL and ERANGE.
-/
import Xc.Crypt
namespace Xc
open List

/-! ### success -/

theorem cryptMd5_ok {D : Digests} {p s H : Bytes} : cryptMd5 D p s = .ok H ↔
    ∃ salt, scanSalt (stripPfx s Gen.md5_salt_prefix) Gen.MD5_SALT_LEN_MAX = some salt ∧
      H = Gen.md5_salt_prefix ++ salt ++ [36] ++ permEncode Gen.perm_md5crypt (D.md5crypt p salt) := by
  unfold cryptMd5; split <;> simp [*, @eq_comm _ H]

/-- the constants in which sha256crypt and sha512crypt differ -/
structure ShaKind where
  pfx : Bytes
  roundsPfx : Bytes
  dflt : Nat
  rmin : Nat
  rmax : Nat
  saltMax : Nat
  sched : List (Nat × Nat × Nat × Nat)

def sha256Kind : ShaKind :=
  ⟨Gen.sha256_salt_prefix, Gen.sha256_rounds_prefix, Gen.SHA256_ROUNDS_DEFAULT, Gen.SHA256_ROUNDS_MIN, Gen.SHA256_ROUNDS_MAX,
    Gen.SHA256_SALT_LEN_MAX, Gen.perm_sha256crypt⟩

def sha512Kind : ShaKind :=
  ⟨Gen.sha512_salt_prefix, Gen.sha512_rounds_prefix, Gen.SHA512_ROUNDS_DEFAULT, Gen.SHA512_ROUNDS_MIN, Gen.SHA512_ROUNDS_MAX,
    Gen.SHA512_SALT_LEN_MAX, Gen.perm_sha512crypt⟩

def ShaKind.parse (k : ShaKind) : Bytes → Except Errno ShaParsed := parseSha k.pfx k.roundsPfx k.dflt k.rmin k.rmax k.saltMax

def ShaKind.emit (k : ShaKind) : ShaParsed → Bytes → Bytes := emitSha k.pfx k.roundsPfx

/-- `crypt_sha256crypt_rn` / `crypt_sha512crypt_rn` with the constants and the core `f` as parameters: by definition
    `cryptSha256 D` is `sha256Kind.crypt D.sha256crypt` and `cryptSha512 D` is `sha512Kind.crypt D.sha512crypt` -/
def ShaKind.crypt (k : ShaKind) (f : Bytes → Bytes → Nat → Bytes) (phrase setting : Bytes) : CRes :=
  match k.parse setting with
  | .error e => .error e
  | .ok P => .ok (k.emit P (permEncode k.sched (f phrase P.salt P.rounds)))

theorem ShaKind.emit_append (k : ShaKind) (P : ShaParsed) (t : Bytes) : k.emit P [] ++ t = k.emit P t := by
  simp [ShaKind.emit, emitSha]

theorem ShaKind.crypt_ok {k : ShaKind} {f : Bytes → Bytes → Nat → Bytes} {p s H : Bytes} : k.crypt f p s = .ok H ↔
    ∃ P, k.parse s = .ok P ∧ H = k.emit P [] ++ permEncode k.sched (f p P.salt P.rounds) := by
  unfold ShaKind.crypt; split <;> simp [*, @eq_comm _ H, ShaKind.emit_append]

theorem cryptSunmd5_ok {D : Digests} {p s H : Bytes} : cryptSunmd5 D p s = .ok H ↔
    ∃ P, parseSunmd5 s = .ok P ∧
      H = s.take P.saltlen ++ 36 :: permEncode Gen.perm_sunmd5 (D.sunmd5 p (s.take P.saltlen) P.nrounds) := by
  unfold cryptSunmd5; split <;> simp [*, @eq_comm _ H]

theorem cryptSha1_ok {D : Digests} {p s H : Bytes} : cryptSha1 D p s = .ok H ↔
    ∃ P, parseSha1 s = .ok P ∧
      H = sha1Magic ++ toDec P.iterations ++ [36] ++ P.salt ++ [36] ++ sha1Encode (D.sha1crypt p P.salt P.iterations) := by
  unfold cryptSha1; split <;> simp [*, @eq_comm _ H]

theorem cryptNt_ok {D : Digests} {p s H : Bytes} : cryptNt D p s = .ok H ↔
    hasPrefix s ntMagic = true ∧ H = ntMagic ++ [36] ++ hexLower (D.nt p) := by
  unfold cryptNt; by_cases h : hasPrefix s ntMagic = true <;> simp [h, @eq_comm _ H]

theorem cryptDes_ok {D : Digests} {p s H : Bytes} : cryptDes D p s = .ok H ↔
    ∃ salt, parseDesSalt s = some salt ∧ H = [a64 salt, a64 (salt / 64)] ++ desEncode (D.desHash (desKey p) salt 25) := by
  unfold cryptDes; split <;> simp [*, @eq_comm _ H]

theorem cryptBig_ok {d : Bool} {D : Digests} {p s H : Bytes} : cryptBig d D p s = .ok H ↔
    if p.length > 8 ∧ s.length ≤ 13 then d = true ∧ cryptDes D p s = .ok H
    else ∃ salt, parseDesSalt s = some salt ∧ H = [a64 salt, a64 (salt / 64)] ++ bigSegments D 16 p salt := by
  unfold cryptBig
  split
  · cases d <;> simp
  · split <;> simp [*, @eq_comm _ H]

theorem cryptBsdi_ok {D : Digests} {p s H : Bytes} : cryptBsdi D p s = .ok H ↔
    cat s 0 = 95 ∧ 9 ≤ s.length ∧ ∃ count salt, dec24 s 1 = some count ∧ dec24 s 5 = some salt ∧
      H = s.take 9 ++ desEncode (D.bsdi p salt count) := by
  unfold cryptBsdi
  split
  · rename_i h; simp only [reduceCtorEq, false_iff]; rintro ⟨h0, h9, _⟩; rcases h with h | h
    · exact h h0
    · omega
  · rename_i h
    simp only [not_or, Decidable.not_not, Nat.not_lt] at h
    simp only [h, true_and]
    cases dec24 s 1 <;> cases dec24 s 5 <;> simp [@eq_comm _ H]

theorem cryptBf_ok {D : Digests} {p s H : Bytes} : cryptBf D p s = .ok H ↔
    ∃ P, parseBf s = some P ∧ D.bfSelfTest P.flags = true ∧
      H = s.take 28 ++ [bf64 ((bfAtoi (cat s 28)).getD 0 / 16 * 16)] ++ bfEncode (D.bf P.flags P.cost P.salt p) := by
  have e : Gen.BF_SETTING_LENGTH - 1 = 28 := rfl
  unfold cryptBf
  cases parseBf s with
  | none => simp
  | some P => by_cases ht : D.bfSelfTest P.flags = true <;> simp [ht, e, @eq_comm _ H]

theorem parseYescrypt_ok {s : Bytes} {n : Nat} {Q : YParsed} :
    parseYescrypt s n = some Q ↔ ∃ P pl, yParams s = some (P, pl) ∧ yFinish s n P pl = some Q := by
  unfold parseYescrypt
  split
  · simp [*]
  · rename_i P pl h
    exact ⟨fun hq => ⟨P, pl, h, hq⟩, fun ⟨_, _, h', hq⟩ => by rw [h] at h'; cases h'; exact hq⟩

theorem yescryptR_ok {D : Digests} {p s out : Bytes} {n : Nat} : yescryptR D p s n = some out ↔
    ∃ P h, parseYescrypt s n = some P ∧ D.yescrypt P.params P.salt p = some h ∧
      out = s.take (P.prefixlen + P.saltstrlen) ++ 36 :: encode64 h ∧ out.length < n := by
  unfold yescryptR
  cases hP : parseYescrypt s n with
  | none => simp
  | some P =>
    cases hh : D.yescrypt P.params P.salt p with
    | none => simp [hh]
    | some h =>
      simp only [Option.some.injEq, exists_and_left, exists_eq_left', hh, List.append_assoc, List.singleton_append]
      split
      · rename_i hl; simp only [reduceCtorEq, false_iff]; rintro ⟨rfl, _⟩; omega
      · rename_i hl; exact ⟨fun e => by cases e; exact ⟨rfl, by omega⟩, fun e => by rw [e.1]⟩

theorem cryptYescryptCore_ok {D : Digests} {p s H : Bytes} :
    cryptYescryptCore D p s = .ok H ↔ yescryptR D p s Gen.CRYPT_OUTPUT_SIZE = some H := by
  unfold cryptYescryptCore; split <;> simp [*]

theorem cryptScrypt_ok {D : Digests} {p s H : Bytes} : cryptScrypt D p s = .ok H ↔
    hasPrefix s [36, 55, 36] = true ∧ scryptVerifySalt s = true ∧ yescryptR D p s Gen.CRYPT_OUTPUT_SIZE = some H := by
  unfold cryptScrypt
  split
  · rename_i h; simp only [reduceCtorEq, false_iff]; intro h'; simp [h'.1, h'.2.1] at h
  · rename_i h; simp only [not_or, Decidable.not_not] at h; simp [h, cryptYescryptCore_ok]

theorem cryptGost_ok {D : Digests} {p s H : Bytes} : cryptGost D p s = .ok H ↔
    s.length + 1 + 43 + 1 ≤ Gen.CRYPT_OUTPUT_SIZE ∧ hasPrefix s [36, 103, 121, 36] = true ∧
    ∃ y k1 k2 yb, yescryptR D p ([36, 121, 36] ++ s.drop 4) (Gen.CRYPT_OUTPUT_SIZE - 1) = some y ∧
      strchr (y.drop 3) 36 = some k1 ∧ strchr (y.drop (3 + k1 + 1)) 36 = some k2 ∧
      yDecode64 (y.drop (3 + k1 + 1 + k2 + 1)) 32 = some yb ∧ yb.length = 32 ∧
      H = [36, 103] ++ (y.take (3 + k1 + 1 + k2 + 1)).drop 1 ++ encode64 (D.gostOuter p (s.take (3 + k1 + 1 + k2 + 1)) yb) := by
  constructor
  · intro h
    unfold cryptGost at h
    simp only [] at h
    split at h; · cases h
    split at h; · cases h
    split at h; · cases h
    split at h; · cases h
    split at h; · cases h
    split at h; · cases h
    split at h; · cases h
    cases h
    rename_i hl hp _ y hy _ k1 h1 _ k2 h2 _ yb h3 h4
    exact ⟨by omega, by simpa using hp, y, k1, k2, yb, hy, h1, h2, h3, by simpa using h4, rfl⟩
  · rintro ⟨hl, hp, y, k1, k2, yb, hy, h1, h2, h3, h4, rfl⟩
    unfold cryptGost
    simp only [Nat.not_lt.mpr hl, hp, hy, h1, h2, h3, h4, if_false, not_true_eq_false, ne_eq]

theorem cryptPure_ok {cfg : Config} {D : Digests} {p s H : Bytes} : cryptPure cfg D p s = .ok H ↔
    p.length < Gen.CRYPT_MAX_PASSPHRASE_SIZE ∧ checkBadSaltChars s = false ∧
      ∃ r, getHashFn cfg.table s = some r ∧ cryptMethod cfg.descryptOn D r.crypt p s = .ok H := by
  unfold cryptPure
  split; · rename_i h; simp only [reduceCtorEq, false_iff]; intro h'; omega
  rename_i h
  split; · rename_i hb; simp [hb]
  rename_i hb
  simp only [Nat.not_le.mp h, Bool.not_eq_true _ ▸ hb, true_and]
  split <;> simp [*]

/-! ### failure -/

def errOk (e : Errno) : Prop := e = .EINVAL ∨ e = .ERANGE

/- for `h : front-end … = .error e`, the definition unfolded: every branch either returns `.ok` (absurd), or returns one of
   the two codes itself (then `e` is that code), or passes on the error of a parser it called (such goals are left) -/
macro "err_cases" h:ident : tactic =>
  `(tactic| (repeat' (split at $h:ident)) <;> (first | (cases $h:ident; done) | (cases $h:ident; simp [errOk]; done) | skip))

theorem parseSha_err {pfx rp : Bytes} {d mn mx sm : Nat} {s : Bytes} {e : Errno}
    (h : parseSha pfx rp d mn mx sm s = .error e) : errOk e := by
  unfold parseSha at h; simp only [] at h; err_cases h

theorem cryptMd5_err {D : Digests} {p s : Bytes} {e : Errno} (h : cryptMd5 D p s = .error e) : errOk e := by
  unfold cryptMd5 at h; err_cases h

theorem ShaKind.crypt_err {k : ShaKind} {f : Bytes → Bytes → Nat → Bytes} {p s : Bytes} {e : Errno} (h : k.crypt f p s = .error e) : errOk e := by
  unfold ShaKind.crypt at h; err_cases h; rename_i he; cases h; exact parseSha_err he

theorem sunStep2_err {s : Bytes} {n p : Nat} {e : Errno} (h : sunStep2 s n p = .error e) : errOk e := by
  unfold sunStep2 at h; simp only [] at h; err_cases h

theorem parseSunmd5_err {s : Bytes} {e : Errno} (h : parseSunmd5 s = .error e) : errOk e := by
  unfold parseSunmd5 at h; simp only [] at h; err_cases h <;> exact sunStep2_err h

theorem cryptSunmd5_err {D : Digests} {p s : Bytes} {e : Errno} (h : cryptSunmd5 D p s = .error e) : errOk e := by
  unfold cryptSunmd5 at h; err_cases h; rename_i he; cases h; exact parseSunmd5_err he

theorem parseSha1_err {s : Bytes} {e : Errno} (h : parseSha1 s = .error e) : errOk e := by
  unfold parseSha1 at h; simp only [] at h; err_cases h

theorem cryptSha1_err {D : Digests} {p s : Bytes} {e : Errno} (h : cryptSha1 D p s = .error e) : errOk e := by
  unfold cryptSha1 at h; err_cases h; rename_i he; cases h; exact parseSha1_err he

theorem cryptNt_err {D : Digests} {p s : Bytes} {e : Errno} (h : cryptNt D p s = .error e) : errOk e := by
  unfold cryptNt at h; err_cases h

theorem cryptDes_err {D : Digests} {p s : Bytes} {e : Errno} (h : cryptDes D p s = .error e) : errOk e := by
  unfold cryptDes at h; err_cases h

theorem cryptBig_err {d : Bool} {D : Digests} {p s : Bytes} {e : Errno} (h : cryptBig d D p s = .error e) : errOk e := by
  unfold cryptBig at h; err_cases h; exact cryptDes_err h

theorem cryptBsdi_err {D : Digests} {p s : Bytes} {e : Errno} (h : cryptBsdi D p s = .error e) : errOk e := by
  unfold cryptBsdi at h; err_cases h

theorem cryptBf_err {D : Digests} {p s : Bytes} {e : Errno} (h : cryptBf D p s = .error e) : errOk e := by
  unfold cryptBf at h; simp only [] at h; err_cases h

theorem cryptYescryptCore_err {D : Digests} {p s : Bytes} {e : Errno} (h : cryptYescryptCore D p s = .error e) : errOk e := by
  unfold cryptYescryptCore at h; err_cases h

theorem cryptScrypt_err {D : Digests} {p s : Bytes} {e : Errno} (h : cryptScrypt D p s = .error e) : errOk e := by
  unfold cryptScrypt at h; split at h
  · cases h; simp [errOk]
  · exact cryptYescryptCore_err h

theorem cryptGost_err {D : Digests} {p s : Bytes} {e : Errno} (h : cryptGost D p s = .error e) : errOk e := by
  unfold cryptGost at h; simp only [] at h; err_cases h

theorem cryptMethod_err {d : Bool} {D : Digests} {m : Method} {p s : Bytes} {e : Errno}
    (h : cryptMethod d D m p s = .error e) : errOk e := by
  cases m <;> simp only [cryptMethod] at h
  · exact cryptYescryptCore_err h
  · exact cryptGost_err h
  · exact cryptScrypt_err h
  · exact cryptBf_err h
  · exact cryptBf_err h
  · exact cryptBf_err h
  · exact cryptBf_err h
  · exact sha512Kind.crypt_err (f := D.sha512crypt) h
  · exact sha256Kind.crypt_err (f := D.sha256crypt) h
  · exact cryptSha1_err h
  · exact cryptSunmd5_err h
  · exact cryptMd5_err h
  · exact cryptNt_err h
  · exact cryptBsdi_err h
  · exact cryptBig_err h
  · exact cryptDes_err h

end Xc
