/-
  C10/C11/C12, end to end: what the method's `crypt` does with a setting that its `gensalt` wrote.  For every method the exact result:
  the generated setting is kept as a literal prefix of the hash, the cost applied is the documented function of `count`, and the salt
  is made of the caller's random bytes.
-/
import Xc.Lemmas.Writers
import Xc.Lemmas.Scrypt
import Xc.Lemmas.Gost
namespace Xc

theorem accept_nt {count o : Nat} {S : Bytes} {e : Nat} (h : gensaltNt count o = .ok S e) (D : Digests) (p : Bytes) :
    cryptNt D p S = .ok (S ++ [36] ++ hexLower (D.nt p)) := by
  obtain ⟨_, _, rfl⟩ := (writes_nt count).ok h
  exact cryptNt_ok.mpr ⟨rfl, rfl⟩

/-- the two generated salt characters carry the low six bits of two random bytes: `crypt` reads those twelve bits back -/
theorem parseDesSalt_gen (x y : Nat) (tail : Bytes) :
    [a64 (x % 64 + y % 64 * 64), a64 ((x % 64 + y % 64 * 64) / 64)] = [a64 x, a64 y] ∧
    parseDesSalt ([a64 x, a64 y] ++ tail) = some (x % 64 + y % 64 * 64) := by
  have e : [a64 (x % 64 + y % 64 * 64), a64 ((x % 64 + y % 64 * 64) / 64)] = [a64 x, a64 y] := by
    rw [a64_congr (show (x % 64 + y % 64 * 64) % 64 = x % 64 by omega), a64_congr (show (x % 64 + y % 64 * 64) / 64 % 64 = y % 64 by omega)]
  exact ⟨e, e ▸ parseDesSalt_canon (x % 64 + y % 64 * 64) (by omega) tail⟩

theorem accept_des {count : Nat} {rb : Bytes} {n o : Nat} {S : Bytes} {e : Nat} (h : gensaltDes count rb n o = .ok S e)
    (D : Digests) (p : Bytes) :
    cryptDes D p S = .ok (S ++ desEncode (D.desHash (desKey p) (rbAt rb 0 % 64 + rbAt rb 1 % 64 * 64) 25)) := by
  obtain ⟨_, _, rfl⟩ := (writes_des count rb n).ok h
  obtain ⟨hs, hp⟩ := parseDesSalt_gen (rbAt rb 0) (rbAt rb 1) []
  exact cryptDes_ok.mpr ⟨_, hp, by rw [hs]⟩

/-- crypt keeps the two salt characters, not the twelve filler characters of a build without descrypt -/
theorem accept_big (d : Bool) (count : Nat) (rb : Bytes) (n osize : Nat) (S : Bytes) (e : Nat)
    (h : gensaltBig d count rb n osize = .ok S e) (D : Digests) (p : Bytes) :
    ∃ H, cryptBig d D p S = .ok H ∧ S.take 2 <+: H ∧ (d = true → S <+: H) := by
  obtain ⟨hV, ho, rfl⟩ := (writes_big d count rb n).ok h
  cases d
  · obtain ⟨hs, hp⟩ := parseDesSalt_gen (rbAt rb 0) (rbAt rb 1) [46, 46, 46, 46, 46, 46, 46, 46, 46, 46, 46, 46]
    exact ⟨_, cryptBig_ok.mpr (by rw [if_neg (by simp)]; exact ⟨_, hp, rfl⟩), by rw [hs]; exact ⟨_, rfl⟩, fun hd => by cases hd⟩
  · have hd := accept_des (o := osize) (e := e) (by simpa [gensaltBig] using h) D p
    obtain ⟨hs, hp⟩ := parseDesSalt_gen (rbAt rb 0) (rbAt rb 1) []
    simp only [if_true, List.append_nil] at hd hp ⊢
    by_cases hl : p.length > 8 ∧ [a64 (rbAt rb 0), a64 (rbAt rb 1)].length ≤ 13
    · exact ⟨_, cryptBig_ok.mpr (by rw [if_pos hl]; exact ⟨rfl, hd⟩), ⟨_, rfl⟩, fun _ => ⟨_, rfl⟩⟩
    · exact ⟨_, cryptBig_ok.mpr (by rw [if_neg hl]; exact ⟨_, hp, rfl⟩), by rw [hs]; exact ⟨_, rfl⟩, fun _ => by rw [hs]; exact ⟨_, rfl⟩⟩

theorem dec24_enc24 (v : Nat) (hv : v < 2 ^ 24) (pre tail : Bytes) :
    dec24 (pre ++ enc24 v ++ tail) pre.length = some v := by
  have c : ∀ k, k < 4 → cat (pre ++ enc24 v ++ tail) (pre.length + k) = cat (enc24 v) k := fun k hk => by
    rw [List.append_assoc, cat_append_right _ _ _ (by omega), Nat.add_sub_cancel_left, cat_append_left _ (by simpa using hk)]
  have c0 := c 0 (by omega)
  rw [Nat.add_zero] at c0
  unfold dec24
  rw [c0, c 1 (by omega), c 2 (by omega), c 3 (by omega)]
  simp only [enc24, cat, List.getD_cons_zero, List.getD_cons_succ, asciiToBin_a64', Option.some.injEq]
  omega

theorem accept_bsdi {count : Nat} {rb : Bytes} {n o : Nat} {S : Bytes} {e : Nat} (h : gensaltBsdi count rb n o = .ok S e)
    (D : Digests) (p : Bytes) : cryptBsdi D p S = .ok (S ++ desEncode (D.bsdi p (le24 rb 0) (C11.bsdiCount count))) := by
  obtain ⟨_, _, rfl⟩ := (writes_bsdi count rb n).ok h
  have hcl : C11.bsdiCount count < 2 ^ 24 := by have := (C11.bsdiCount_bounds count).2; omega
  have d5 := dec24_enc24 _ (le24_lt rb 0) ([95] ++ enc24 (C11.bsdiCount count)) []
  rw [List.append_nil] at d5
  exact cryptBsdi_ok.mpr ⟨rfl, by simp, _, _, dec24_enc24 _ hcl [95] (enc24 (le24 rb 0)), d5, by rw [List.take_of_length_le (by simp)]⟩

/-- what the two SHA-crypt kinds and the shared writer `gensalt_sha_rn` agree on -/
structure ShaKind.Gen (k : ShaKind) (tag : UInt8) : Prop where
  pfx : k.pfx = [36, tag, 36]
  rounds : k.roundsPfx = [114, 111, 117, 110, 100, 115, 61]
  salt4 : k.saltMax % 4 = 0
  rmin_pos : 0 < k.rmin
  rmin_le : k.rmin ≤ k.rmax
  rmax_lt : k.rmax < 10000000000

theorem sha256Kind_gen : sha256Kind.Gen 53 := ⟨rfl, rfl, by decide, by decide, by decide, by decide⟩
theorem sha512Kind_gen : sha512Kind.Gen 54 := ⟨rfl, rfl, by decide, by decide, by decide, by decide⟩

theorem parseSha_gen {k : ShaKind} {tag : UInt8} (hk : k.Gen tag) {count : Nat} {rb : Bytes} {n o : Nat} {S : Bytes} {e : Nat}
    (h : gensaltSha tag k.saltMax k.dflt k.rmin k.rmax count rb n o = .ok S e) :
    ∃ P, k.parse S = .ok P ∧ P.rounds = shaClamp k.dflt k.rmin k.rmax count ∧ k.emit P [] = S ++ [36] := by
  obtain ⟨_, _, rfl⟩ := (writes_sha tag k.saltMax k.dflt k.rmin k.rmax count rb n hk.rmax_lt).ok h
  have hge := shaClamp_ge k.dflt k.rmin k.rmax count hk.rmin_le
  have hle := shaClamp_le k.dflt k.rmin k.rmax count
  generalize shaClamp k.dflt k.rmin k.rmax count = c at *
  generalize hsalt : encGroups (fun i => le24 rb (3 * i)) _ = salt
  have hsub : salt ⊆ Gen.ascii64 := hsalt ▸ encGroups_subset _ _
  have hcan : ShaCanon k ⟨c, !decide (c = k.dflt), salt⟩ [] :=
    { salt_chars := fun x hx => ascii64_notTerm x (hsub hx)
      salt_len := by rw [← hsalt, encGroups_length]; have := hk.salt4; omega
      custom := fun _ => ⟨hge, hle⟩
      plain := fun hc => ⟨by simpa using hc, by
        rw [← Bool.not_eq_true, hasPrefix_iff, hk.rounds, List.append_nil]
        exact fun hp => absurd (hsub (hp.subset (show (61 : UInt8) ∈ _ by decide))) (by decide)⟩ }
  have hparse := ShaKind.parse_canon hk.rmin_pos (by unfold ULONG_MAX; have := hk.rmax_lt; omega) hcan (.inl rfl)
  have hS : C12.shaHead tag k.dflt c ++ salt = k.pfx ++ (if (!decide (c = k.dflt)) = true then k.roundsPfx ++ toDec c ++ [36] else []) ++ salt := by
    rw [hk.pfx, hk.rounds]; unfold C12.shaHead; by_cases hc : c = k.dflt <;> simp [hc]
  rw [List.append_nil, ← hS] at hparse
  refine ⟨_, hparse, rfl, ?_⟩
  rw [hS]
  simp [ShaKind.emit, emitSha]

theorem accept_sha {k : ShaKind} {tag : UInt8} (hk : k.Gen tag) {count : Nat} {rb : Bytes} {n o : Nat} {S : Bytes} {e : Nat}
    (h : gensaltSha tag k.saltMax k.dflt k.rmin k.rmax count rb n o = .ok S e) (f : Bytes → Bytes → Nat → Bytes) (p : Bytes) :
    ∃ P, k.parse S = .ok P ∧ k.crypt f p S = .ok (S ++ [36] ++ permEncode k.sched (f p P.salt P.rounds)) := by
  obtain ⟨P, hP, _, hE⟩ := parseSha_gen hk h
  exact ⟨P, hP, ShaKind.crypt_ok.mpr ⟨P, hP, by rw [hE]⟩⟩

theorem accept_md5 {count : Nat} {rb : Bytes} {n o : Nat} {S : Bytes} {e : Nat} (h : gensaltMd5 count rb n o = .ok S e)
    (D : Digests) (p : Bytes) : cryptMd5 D p S = .ok (S ++ [36] ++ permEncode Gen.perm_md5crypt (D.md5crypt p (S.drop 3))) := by
  obtain ⟨_, _, rfl⟩ := (writes_md5 count rb n).ok h
  refine cryptMd5_ok.mpr ⟨_, ?_, rfl⟩
  have := scanSalt_stop (encGroups (fun i => le24 rb (3 * i)) (min ((o - 3 - 1) / 4) (min ((n - 1) / 3) 2))) [] Gen.MD5_SALT_LEN_MAX
    (fun x hx => ascii64_notTerm x (encGroups_subset _ _ hx)) (by rw [encGroups_length, show Gen.MD5_SALT_LEN_MAX = 8 from rfl]; omega) (.inl rfl)
  rwa [List.append_nil] at this

theorem parseSha1_gen {count : Nat} {rb : Bytes} {n o : Nat} {S : Bytes} {e : Nat} (h : gensaltSha1 count rb n o = .ok S e) :
    parseSha1 S = .ok { iterations := sha1Rounds count rb, salt := encGroups (fun i => be24 rb (4 + 3 * i)) (min ((n - 5) / 3) 15) } := by
  obtain ⟨hn, _, rfl⟩ := (writes_sha1 count rb n).ok h
  have hr := sha1Rounds_lt count rb
  have hd := toDec_length_le10 (sha1Rounds count rb) (by omega)
  have := Sha1Canon.parse (P := ⟨sha1Rounds count rb, encGroups (fun i => be24 rb (4 + 3 * i)) (min ((n - 5) / 3) 15)⟩)
    { salt_chars := encGroups_subset _ _
      salt_ne := by rw [encGroups_length]; omega
      iter_le := by unfold ULONG_MAX; dsimp only; omega
      fits := by
        rw [encGroups_length, show sha1Magic.length = 6 from rfl, show Gen.SHA1_OUTPUT_SIZE = 28 from rfl,
          show Gen.CRYPT_OUTPUT_SIZE = 384 from rfl]
        dsimp only; omega } []
  rw [List.append_nil] at this
  exact this

theorem accept_sha1 {count : Nat} {rb : Bytes} {n o : Nat} {S : Bytes} {e : Nat} (h : gensaltSha1 count rb n o = .ok S e)
    (D : Digests) (p : Bytes) :
    cryptSha1 D p S = .ok (S ++ sha1Encode (D.sha1crypt p (encGroups (fun i => be24 rb (4 + 3 * i)) (min ((n - 5) / 3) 15)) (sha1Rounds count rb))) := by
  obtain ⟨_, _, hS⟩ := (writes_sha1 count rb n).ok h
  exact cryptSha1_ok.mpr ⟨_, parseSha1_gen h, by rw [hS]; rfl⟩

/-- the arithmetic of `BF_decode` after `BF_encode` on the three bytes of a full group and on a final single byte -/
theorem bf_groups :
    (∀ a b : UInt8, ((a.toNat / 4 % 64 * 4 + (a.toNat % 4 * 16 + b.toNat / 16) % 64 / 16) % 256).toUInt8 = a) ∧
    (∀ a b c : UInt8, (((a.toNat % 4 * 16 + b.toNat / 16) % 64 % 16 * 16 + (b.toNat % 16 * 4 + c.toNat / 64) % 64 / 4) % 256).toUInt8 = b) ∧
    (∀ b c : UInt8, (((b.toNat % 16 * 4 + c.toNat / 64) % 64 % 4 * 64 + c.toNat % 64 % 64) % 256).toUInt8 = c) ∧
    (∀ a : UInt8, ((a.toNat / 4 % 64 * 4 + a.toNat % 4 * 16 % 64 / 16) % 256).toUInt8 = a) := by
  refine ⟨fun a b => ?_, fun a b c => ?_, fun b c => ?_, fun a => ?_⟩ <;> apply u8_of_nat <;>
    (try have := a.toNat_lt) <;> (try have := b.toNat_lt) <;> (try have := c.toNat_lt) <;> omega

/-- second part: the last of the 22 characters has its four unused bits clear -/
theorem bfDecode16_bfEncode (l tail : Bytes) (h : l.length = 16) :
    bfDecode16 (bfEncode l ++ tail) = some l ∧ ∃ v, v < 4 ∧ cat (bfEncode l ++ tail) 21 = bf64 (v * 16) := by
  obtain ⟨g1, g2, g3, g4⟩ := bf_groups
  match l, h with
  | [x0, x1, x2, x3, x4, x5, x6, x7, x8, x9, x10, x11, x12, x13, x14, x15], _ =>
    refine ⟨?_, x15.toNat % 4, Nat.mod_lt _ (by decide), by simp [bfEncode, cat]⟩
    simp only [bfDecode16, bfDecode16.go, bfEncode, cat, List.cons_append, List.nil_append, List.getD_cons_zero, List.getD_cons_succ,
      bfAtoi_bf64_mod, Nat.zero_add, Nat.reduceAdd, Nat.reduceEqDiff, if_false, if_true, Option.map_some, g1, g2, g3, g4]

theorem bf_cost_digits : ∀ c : Fin 32, 4 ≤ c.val →
    let d1 := (48 + c.val / 10).toUInt8; let d2 := (48 + c.val % 10).toUInt8
    ¬ (d1 < 48 ∨ d1 > 51 ∨ d2 < 48 ∨ d2 > 57 ∨ (d1 = 51 ∧ d2 > 49)) ∧ (d1.toNat - 48) * 10 + (d2.toNat - 48) = c.val ∧ ¬ (2 ^ c.val < 16) := by decide

theorem accept_bf {sub : UInt8} {count : Nat} {rb : Bytes} {n o : Nat} {S : Bytes} {e : Nat} (h : gensaltBf sub count rb n o = .ok S e)
    (D : Digests) (hst : ∀ f, D.bfSelfTest f = true) (p : Bytes) :
    cryptBf D p S = .ok (S ++ bfEncode (D.bf (Gen.flags_by_subtype.getD (sub.toNat - 97) 0).toNat (dfl count 5) (padTo rb 16) p)) := by
  obtain ⟨⟨_, h4, h31, hsub⟩, _, hS⟩ := (writes_bf sub count rb n).ok h
  obtain ⟨hdec, v, hv, hlast⟩ := bfDecode16_bfEncode (padTo rb 16) [] (padTo_length rb 16)
  have hel := bfEncode_length16 _ (padTo_length rb 16)
  rw [List.append_nil] at hdec hlast
  generalize dfl count 5 = c at *
  generalize bfEncode (padTo rb 16) = enc at *
  obtain ⟨hd, hcost, hpow⟩ := bf_cost_digits ⟨c, by omega⟩ h4
  have hfl : ¬ (sub < 97 ∨ sub > 122) ∧ (Gen.flags_by_subtype.getD (sub.toNat - 97) 0).toNat ≠ 0 := by
    rcases hsub with rfl | rfl | rfl <;> decide
  have hparse : parseBf S = some { flags := (Gen.flags_by_subtype.getD (sub.toNat - 97) 0).toNat, cost := c, salt := padTo rb 16 } := by
    rw [hS]
    unfold parseBf
    simp only [cat, List.cons_append, List.getD_cons_zero, List.getD_cons_succ, List.drop_succ_cons, List.drop_zero, List.nil_append, hdec]
    rw [if_neg (by simpa using hfl.1), if_neg (by simp only [ne_eq, not_true_eq_false, false_or, or_false]; exact fun h => h.elim hfl.2 hd),
      hcost, if_neg hpow]
  -- the 29th character is kept as it is: its four unused bits are already zero
  have h28 : cat S 28 = bf64 (v * 16) := by rw [hS, ← hlast]; simp [cat]
  have hlen : S.length = 29 := by rw [hS]; simp [hel]
  refine cryptBf_ok.mpr ⟨_, hparse, hst _, ?_⟩
  rw [h28, bfAtoi_bf64_mod, Option.getD_some, show v * 16 % 64 / 16 * 16 = v * 16 by omega, ← h28, cat_eq_getElem (by omega),
    ← List.take_succ_eq_append_getElem, List.take_of_length_le (by omega)]

/-- the parameters the documentation promises for cost `c` -/
def yesParamsOf (c : Nat) : YParams :=
  { flags := Gen.YESCRYPT_DEFAULTS, N := (yesRN c).2, r := (yesRN c).1, p := 1, t := 0, g := 0, NROM := 0 }

def scryptParamsOf (c : Nat) : YParams := { flags := 0, N := 2 ^ (c + 7), r := 32, p := 1, t := 0, g := 0, NROM := 0 }

theorem yesParamsOf_N_r (c : Nat) :
    (yesParamsOf c).N = (if c < 3 then 2 ^ (c + 9) else 2 ^ (c + 7)) ∧ (yesParamsOf c).r = (if c < 3 then 8 else 32) := by
  unfold yesParamsOf yesRN
  split <;> exact ⟨rfl, rfl⟩

theorem yParams_gen : (∀ c : Fin 12, 1 ≤ c.val → yParams (yesPfx c.val) = some (yesParamsOf c.val, (yesPfx c.val).length)) ∧
    (∀ c : Fin 12, 6 ≤ c.val → yParams (scryptPfx c.val) = some (scryptParamsOf c.val, (scryptPfx c.val).length)) := by decide

theorem parseYescrypt_gen {pfx : Bytes} {P : YParams} (hP : yParams pfx = some (P, pfx.length)) (src : Bytes) (n : Nat) :
    parseYescrypt (pfx ++ encode64 src) n = yFin (pfx ++ encode64 src) n P pfx.length (encode64 src).length := by
  obtain ⟨_, _, hloc⟩ := yParams_local hP
  unfold parseYescrypt
  rw [hloc _ fun i hi => cat_append_left _ hi]
  dsimp only
  rw [yFinish_eq', ySl, List.drop_left, show strrchr (encode64 src) 36 = none from strrchr_go_notin 36 _ 0 none (encode64_no36 src)]

/-- `hn` is the parser's `need > buflen` test for the longest salt text: 86 characters, `$`, 43 of the hash and the NUL (and one in
    reserve) -/
theorem parseYescrypt_gen_ok {pfx : Bytes} {P : YParams} (hP : yParams pfx = some (P, pfx.length)) (src : Bytes)
    (hsrc : src.length ≤ 64) {n : Nat} (hn : pfx.length + 132 ≤ n) :
    parseYescrypt (pfx ++ encode64 src) n = some
      { params := P, prefixlen := pfx.length, saltstrlen := (encode64 src).length, salt := if cat pfx 1 = 55 then encode64 src else src } := by
  obtain ⟨h3, _, _⟩ := yParams_local hP
  have hel := encode64_length_le hsrc
  have hfit : ¬ pfx.length + (encode64 src).length + 1 + Gen.YESCRYPT_HASH_LEN + 1 > n := by
    rw [show Gen.YESCRYPT_HASH_LEN = 43 from rfl]; omega
  rw [parseYescrypt_gen hP, yFin, cat_append_left _ (by omega), List.drop_left, List.take_length, yDecode64_encode64,
    if_neg (Nat.not_lt.mpr hsrc)]
  by_cases h55 : cat pfx 1 = 55 <;> simp only [h55, if_true, if_false, hfit]

/-- the KDF's salt is the random input itself (`$y$`: the base-64 text is decoded back) or the text (`$7$`) -/
theorem yescryptR_gen (D : Digests) (hD : D.WF) (p : Bytes) {pfx : Bytes} {P : YParams} (hP : yParams pfx = some (P, pfx.length))
    (src : Bytes) (hsrc : src.length ≤ 64) {n : Nat} (hn : pfx.length + 132 ≤ n) :
    yescryptR D p (pfx ++ encode64 src) n =
      (D.yescrypt P (if cat pfx 1 = 55 then encode64 src else src) p).map fun hd => pfx ++ encode64 src ++ 36 :: encode64 hd := by
  have hel := encode64_length_le hsrc
  unfold yescryptR
  rw [parseYescrypt_gen_ok hP src hsrc hn]
  dsimp only
  cases hk : D.yescrypt P (if cat pfx 1 = 55 then encode64 src else src) p with
  | none => rfl
  | some hd =>
    have : (encode64 hd).length = 43 := by rw [encode64_length, hD.yes _ _ _ _ hk]; rfl
    dsimp only
    rw [List.take_of_length_le (by simp), if_neg (by simp; omega)]
    simp

theorem accept_yescrypt {count : Nat} {rb : Bytes} {n o : Nat} {S : Bytes} {e : Nat}
    (h : gensaltYescrypt count rb n o = .ok S e) (D : Digests) (hD : D.WF) (p : Bytes) :
    cryptYescrypt D p S =
      match D.yescrypt (yesParamsOf (dfl count 5)) (padTo rb (min n 64)) p with
      | none => .error .EINVAL
      | some hd => .ok (S ++ 36 :: encode64 hd) := by
  obtain ⟨⟨hc, _⟩, _, rfl⟩ := (writes_yescrypt count rb n).ok h
  have hc := yesCost_range hc
  have hP := yParams_gen.1 ⟨dfl count 5, by omega⟩ hc.1
  unfold cryptYescrypt cryptYescryptCore
  rw [yescryptR_gen D hD p hP _ (by rw [padTo_length]; omega) (by rw [yesPfx_length hc.1 hc.2]; decide),
    if_neg (by rw [yesPfx_cat1]; decide)]
  cases D.yescrypt (yesParamsOf (dfl count 5)) (padTo rb (min n 64)) p <;> rfl

theorem accept_scrypt {count : Nat} {rb : Bytes} {n o : Nat} {S : Bytes} {e : Nat}
    (h : gensaltScrypt count rb n o = .ok S e) (D : Digests) (hD : D.WF) (p : Bytes) :
    cryptScrypt D p S =
      match D.yescrypt (scryptParamsOf (dfl count 7)) (encode64 (padTo rb (min n 64))) p with
      | none => .error .EINVAL
      | some hd => .ok (S ++ 36 :: encode64 hd) := by
  obtain ⟨hV, _, rfl⟩ := (writes_scrypt count rb n).ok h
  have hc := scryptCost_range hV.1 hV.2.1
  have hP := yParams_gen.2 ⟨dfl count 7, by omega⟩ hc.1
  have hl := scryptPfx_length (dfl count 7)
  have hver : scryptVerifySalt (scryptPfx (dfl count 7) ++ encode64 (padTo rb (min n 64))) = true :=
    verify_of_valid _ fun j h1 h2 => by
      rw [cat_append_right _ _ _ (by omega)]
      exact encode64_valid _ _ (cat_mem (by rw [List.length_append] at h2; omega))
  have hpre : hasPrefix (scryptPfx (dfl count 7) ++ encode64 (padTo rb (min n 64))) [36, 55, 36] = true := by simp [hasPrefix, scryptPfx]
  unfold cryptScrypt cryptYescryptCore
  rw [if_neg (by rw [hpre, hver]; simp), yescryptR_gen D hD p hP _ (by rw [padTo_length]; omega) (by rw [hl]; decide),
    if_pos (by simp [scryptPfx, cat])]
  cases D.yescrypt (scryptParamsOf (dfl count 7)) (encode64 (padTo rb (min n 64))) p <;> rfl

theorem accept_gost {count : Nat} {rb : Bytes} {n o : Nat} {S : Bytes} {e : Nat}
    (h : gensaltGost count rb n o = .ok S e) (D : Digests) (hD : D.WF) (p : Bytes) :
    cryptGost D p S =
      match D.yescrypt (yesParamsOf (dfl count 5)) (padTo rb (min n 64)) p with
      | none => .error .EINVAL
      | some hd => .ok (S ++ 36 :: encode64 (D.gostOuter p S hd)) := by
  obtain ⟨hV, _, hS⟩ := (writes_gost count rb n).ok h
  have hc := yesCost_range hV.1
  generalize dfl count 5 = c at *
  generalize hsrc : padTo rb (min n 64) = src at *
  have hsl : src.length ≤ 64 := by rw [← hsrc, padTo_length]; omega
  have hel := encode64_length_le hsl
  have hpl := yesPfx_length hc.1 hc.2
  -- the inner setting is what `gensalt` writes for `$y$`, and all of `S` is kept
  have hgs : [36, 121, 36] ++ S.drop 4 = yesPfx c ++ encode64 src := by
    rw [hS, yesPfx_split c]; simp
  have hSl : S.length = (yesPfx c).length + (encode64 src).length + 1 := by
    have := congrArg List.length hgs
    rw [hS] at this ⊢
    simp at this ⊢; omega
  have hQ := parseYescrypt_gen_ok (yParams_gen.1 ⟨c, by omega⟩ hc.1) src hsl (n := Gen.CRYPT_OUTPUT_SIZE - 1) (by rw [hpl]; decide)
  rw [if_neg (by rw [yesPfx_cat1]; decide), ← hgs] at hQ
  rw [gost_eval (by rw [show Gen.CRYPT_OUTPUT_SIZE = 384 from rfl]; omega) (by rw [hS]; simp [hasPrefix]) hQ]
  dsimp only
  rw [← hSl, List.take_of_length_le (Nat.le_refl _)]
  cases hk : D.yescrypt (yesParamsOf c) src p with
  | none => rfl
  | some hd => exact if_pos (hD.yes _ _ _ _ hk)

/-- With nothing behind it, the closing `$` counts as part of the salt (the Solaris quirk), so `saltlen` is the whole length.  Any
    bound on the salt that keeps the result inside CRYPT_OUTPUT_SIZE would do for `hl` (the writer's salt has 8 characters); `h2` is
    `SUNMD5_MAX_ROUNDS - 4096` -/
theorem parseSunmd5_gen (N : Nat) (salt : Bytes) (h1 : 1 ≤ N) (h2 : N ≤ 4294963199) (hs : salt ⊆ Gen.ascii64) (hl : salt.length ≤ 300) :
    parseSunmd5 (Gen.SUNMD5_PREFIX ++ 44 :: roundsEq ++ toDec N ++ 36 :: salt ++ [36]) =
      .ok { nrounds := 4096 + N, saltlen := (Gen.SUNMD5_PREFIX ++ 44 :: roundsEq ++ toDec N ++ 36 :: salt ++ [36]).length } := by
  obtain ⟨c0, t0, hdec, hc1, hc2⟩ := toDec_head N (by omega) (by omega)
  have hdl := toDec_length_le10 N (by omega)
  generalize hS : Gen.SUNMD5_PREFIX ++ 44 :: roundsEq ++ toDec N ++ 36 :: salt ++ [36] = S
  have e3 : S.drop 5 = roundsEq ++ (toDec N ++ 36 :: (salt ++ [36])) := by rw [← hS]; simp [Gen.SUNMD5_PREFIX]
  have e4 : S.drop 12 = toDec N ++ 36 :: (salt ++ [36]) := by rw [← hS]; simp [Gen.SUNMD5_PREFIX, roundsEq]
  have e5 : cat S 12 = c0 := by rw [← Nat.add_zero 12, ← cat_drop, e4, hdec]; rfl
  have e6 : cat S (12 + (toDec N).length) = 36 := by rw [← cat_drop, e4]; exact cat_append_mid _ _ _
  have e7 : S.drop (12 + (toDec N).length + 1) = salt ++ 36 :: [] := by rw [Nat.add_assoc, ← List.drop_drop, e4, drop_append_cons]
  have e8 : S.length = 12 + (toDec N).length + 1 + salt.length + 1 := by rw [← hS]; simp [Gen.SUNMD5_PREFIX, roundsEq]; omega
  have e9 : cat S (12 + (toDec N).length + 1 + salt.length) = 36 := by rw [← cat_drop, e7]; exact cat_append_mid _ _ _
  have e10 : cat S (12 + (toDec N).length + 1 + salt.length + 1) = 0 := by
    simp [cat, List.getD_eq_getElem?_getD, List.getElem?_eq_none (Nat.le_of_eq e8)]
  unfold parseSunmd5
  dsimp only
  rw [show Gen.SUNMD5_PREFIX_LEN = 4 from rfl, show hasPrefix S Gen.SUNMD5_PREFIX = true by rw [← hS]; simp [hasPrefix, Gen.SUNMD5_PREFIX],
    show cat S 4 = 44 by rw [← hS]; rfl, if_neg (by simp), show 4 + 1 = 5 from rfl, show roundsEq.length = 7 from rfl, show 5 + 7 = 12 from rfl,
    e3, hasPrefix_append, if_pos rfl, e5, e4, strtoul10_toDec N _ (by unfold ULONG_MAX; omega)]
  dsimp only
  rw [if_neg (by simp [hc1, hc2]), if_neg (by have := toDec_length_pos N; rw [show Gen.SUNMD5_MAX_ROUNDS = 4294967295 from rfl]; rintro (h | h | h) <;> first | omega | cases h),
    e6, if_neg (by simp), Nat.mod_eq_of_lt (by simp only [Nat.reducePow]; omega)]
  unfold sunStep2
  dsimp only
  rw [e7, strspn_stop salt 36 [] Gen.ascii64 (fun x hx => hs hx) (by decide), e9, if_neg (by simp), e10]
  simp only [beq_self_eq_true, Bool.or_true, Bool.and_self, if_true]
  rw [if_neg (by rw [show Gen.CRYPT_OUTPUT_SIZE = 384 from rfl, show Gen.SUNMD5_BARE_OUTPUT_LEN = 22 from rfl]; omega), e8]

theorem accept_sunmd5 {count : Nat} {rb : Bytes} {n o : Nat} {S : Bytes} {e : Nat}
    (h : gensaltSunmd5 count rb n o = .ok S e) (D : Digests) (p : Bytes) :
    cryptSunmd5 D p S = .ok (S ++ [36] ++ permEncode Gen.perm_sunmd5 (D.sunmd5 p S (4096 + sunmd5Count count rb))) := by
  obtain ⟨_, _, hS⟩ := (writes_sunmd5 count rb n).ok h
  obtain ⟨hN1, hN2⟩ := sunmd5Count_bounds count rb
  have hp := parseSunmd5_gen _ (enc24 (le24 rb 2) ++ enc24 (le24 rb 5)) (Nat.le_trans (by decide) hN1) hN2
    (by simp [enc24, a64_mem_ascii64]) (by simp)
  have e : Gen.SUNMD5_PREFIX ++ 44 :: roundsEq ++ toDec (sunmd5Count count rb) ++ 36 :: (enc24 (le24 rb 2) ++ enc24 (le24 rb 5)) ++ [36] = S := by
    rw [hS]; simp [roundsEq]
  rw [e] at hp
  exact cryptSunmd5_ok.mpr ⟨_, hp, by simp⟩

end Xc
