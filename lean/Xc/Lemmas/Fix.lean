/-
  Re-feeding a result to the method that produced it (C01): for each front-end a `_refeed` lemma says that the result
  is `settingPart ++ digestText` and that hashing the same phrase with `settingPart ++ ANY text` gives the same result.
  Hence both clauses of C01: the round trip (take the text to be the digest) and "only prefix, options and salt matter".
  bigcrypt reads the length of its setting, so it has a round trip and a clause for text of the same length.
-/
import Xc.Lemmas.Shape
namespace Xc
open List

theorem cryptMd5_refeed {D : Digests} {p s H : Bytes} (h : cryptMd5 D p s = .ok H) :
    ∃ salt : Bytes, H = Gen.md5_salt_prefix ++ salt ++ [36] ++ permEncode Gen.perm_md5crypt (D.md5crypt p salt) ∧
      ∀ tail, cryptMd5 D p (Gen.md5_salt_prefix ++ salt ++ [36] ++ tail) = .ok H := by
  obtain ⟨salt, hs, rfl⟩ := cryptMd5_ok.mp h
  obtain ⟨a, b, _⟩ := scanSalt_chars hs
  refine ⟨salt, rfl, fun tail => cryptMd5_ok.mpr ⟨salt, ?_, rfl⟩⟩
  rw [append_assoc, append_assoc, stripPfx_append]
  exact scanSalt_canon salt tail _ a b

theorem ShaKind.crypt_refeed {k : ShaKind} (hk : k.Good) {f : Bytes → Bytes → Nat → Bytes} {p s H : Bytes}
    (h : k.crypt f p s = .ok H) :
    ∃ P : ShaParsed, H = k.emit P [] ++ permEncode k.sched (f p P.salt P.rounds) ∧ ∀ tail, k.crypt f p (k.emit P [] ++ tail) = .ok H := by
  obtain ⟨P, hP, rfl⟩ := ShaKind.crypt_ok.mp h
  refine ⟨P, rfl, fun tail => ShaKind.crypt_ok.mpr ⟨P, ?_, rfl⟩⟩
  have := ShaKind.parse_canon hk.rmin_pos hk.rmax_le (ShaKind.parse_shape hk.no36 hP tail) (Or.inr ⟨tail, rfl⟩)
  rwa [ShaKind.emit_append, ShaKind.emit, emitSha, append_assoc _ [36] tail]

theorem ShaKind.pfx_prefix_emit (k : ShaKind) (P : ShaParsed) (t : Bytes) : k.pfx <+: k.emit P t := by
  simp [ShaKind.emit, emitSha]

theorem cryptNt_refeed {D : Digests} {p s H : Bytes} (h : cryptNt D p s = .ok H) :
    H = ntMagic ++ [36] ++ hexLower (D.nt p) ∧ ∀ tail, cryptNt D p (ntMagic ++ tail) = .ok H := by
  obtain ⟨_, rfl⟩ := cryptNt_ok.mp h
  exact ⟨rfl, fun tail => cryptNt_ok.mpr ⟨hasPrefix_append _ _, rfl⟩⟩

theorem cryptSha1_refeed {D : Digests} {p s H : Bytes} (h : cryptSha1 D p s = .ok H) :
    ∃ P : Sha1Parsed, H = sha1Magic ++ toDec P.iterations ++ [36] ++ P.salt ++ [36] ++ sha1Encode (D.sha1crypt p P.salt P.iterations) ∧
      ∀ tail, cryptSha1 D p (sha1Magic ++ toDec P.iterations ++ [36] ++ P.salt ++ [36] ++ tail) = .ok H := by
  obtain ⟨P, hP, rfl⟩ := cryptSha1_ok.mp h
  exact ⟨P, rfl, fun tail => cryptSha1_ok.mpr ⟨P, (parseSha1_shape hP).1.parse tail, rfl⟩⟩

theorem cryptDes_refeed {D : Digests} {p s H : Bytes} (h : cryptDes D p s = .ok H) :
    ∃ salt : Nat, H = [a64 salt, a64 (salt / 64)] ++ desEncode (D.desHash (desKey p) salt 25) ∧
      ∀ tail, cryptDes D p ([a64 salt, a64 (salt / 64)] ++ tail) = .ok H := by
  obtain ⟨salt, hs, rfl⟩ := cryptDes_ok.mp h
  exact ⟨salt, rfl, fun tail => cryptDes_ok.mpr ⟨salt, parseDesSalt_canon salt (parseDesSalt_lt hs) tail, rfl⟩⟩

theorem cryptBsdi_refeed {D : Digests} {p s H : Bytes} (h : cryptBsdi D p s = .ok H) :
    ∃ salt count, 9 ≤ s.length ∧ H = s.take 9 ++ desEncode (D.bsdi p salt count) ∧ ∀ tail, cryptBsdi D p (s.take 9 ++ tail) = .ok H := by
  obtain ⟨h0, h9, count, salt, hc, hs, rfl⟩ := cryptBsdi_ok.mp h
  refine ⟨salt, count, h9, rfl, fun tail => cryptBsdi_ok.mpr ⟨?_, by simp; omega, count, salt, ?_, ?_, ?_⟩⟩
  · rw [cat_take_append s tail 9 0 (by omega) h9]; exact h0
  · rw [dec24_take_append s tail 9 1 (by omega) h9]; exact hc
  · rw [dec24_take_append s tail 9 5 (by omega) h9]; exact hs
  · rw [take_left' (by simp; omega)]

theorem cryptBig_shape {d : Bool} {D : Digests} {p s H : Bytes} (h : cryptBig d D p s = .ok H) :
    ∃ salt, salt < 4096 ∧ (H = [a64 salt, a64 (salt / 64)] ++ desEncode (D.desHash (desKey p) salt 25) ∨
      H = [a64 salt, a64 (salt / 64)] ++ bigSegments D 16 p salt) := by
  rw [cryptBig_ok] at h
  split at h
  · obtain ⟨salt, hs, e⟩ := cryptDes_ok.mp h.2
    exact ⟨salt, parseDesSalt_lt hs, Or.inl e⟩
  · obtain ⟨salt, hs, e⟩ := h
    exact ⟨salt, parseDesSalt_lt hs, Or.inr e⟩

/-- A descrypt-length result of a long phrase is re-read by descrypt; a result of the segment loop for a phrase of more than 8
    characters has at least two segments, so it is longer than 13 characters and takes the loop again -/
theorem cryptBig_fix (d : Bool) (D : Digests) (hD : D.WF) (p s H : Bytes) (h : cryptBig d D p s = .ok H) :
    cryptBig d D p H = .ok H := by
  rw [cryptBig_ok] at h ⊢
  split at h
  · rename_i hc
    obtain ⟨salt, e, f⟩ := cryptDes_refeed h.2
    rw [if_pos ⟨hc.1, by rw [(cryptDes_good hD h.2).2]; omega⟩]
    exact ⟨h.1, by have := f (desEncode (D.desHash (desKey p) salt 25)); rwa [← e] at this⟩
  · rename_i hc
    obtain ⟨salt, hs, rfl⟩ := h
    have hlen : ¬ (p.length > 8 ∧ ([a64 salt, a64 (salt / 64)] ++ bigSegments D 16 p salt).length ≤ 13) := by
      rintro ⟨h8, hl⟩
      rw [bigSegments_succ, if_neg (by simp; omega)] at hl
      have : 11 ≤ (bigSegments D 15 (p.drop 8) (segSalt (desEncode (D.desHash (desKey p) salt 25)))).length :=
        bigSegments_len_ge D hD 14 _ _
      simp only [length_append, length_cons, length_nil, desEncode_length8 _ (hD.des (desKey p) salt 25)] at hl
      omega
    rw [if_neg hlen]
    exact ⟨salt, parseDesSalt_canon salt (parseDesSalt_lt hs) _, rfl⟩

theorem cryptBig_congr (d : Bool) (D : Digests) (p s s' : Bytes) (hl : s'.length = s.length) (h0 : cat s' 0 = cat s 0)
    (h1 : cat s' 1 = cat s 1) : cryptBig d D p s' = cryptBig d D p s := by
  unfold cryptBig cryptDes parseDesSalt
  rw [hl, h0, h1]

theorem cryptBig_hashpart (d : Bool) (D : Digests) (p s H : Bytes) (h : cryptBig d D p s = .ok H) :
    ∀ t : Bytes, t.length = s.length - 2 → 2 ≤ s.length → cryptBig d D p (s.take 2 ++ t) = .ok H := by
  intro t htl hs2
  rw [cryptBig_congr d D p s _ (by simp; omega) (cat_take_append s t 2 0 (by omega) hs2) (cat_take_append s t 2 1 (by omega) hs2)]
  exact h

/-- bcrypt: the result keeps 28 characters of the setting and re-emits the 29th with its four unused bits cleared -/
theorem cryptBf_refeed {D : Digests} {p s H : Bytes} (h : cryptBf D p s = .ok H) :
    ∃ (c22 : UInt8) (P : BfParsed), 28 < s.length ∧ H = s.take 28 ++ [c22] ++ bfEncode (D.bf P.flags P.cost P.salt p) ∧
      ∀ tail, cryptBf D p (s.take 28 ++ [c22] ++ tail) = .ok H := by
  obtain ⟨P, hP, hst, rfl⟩ := cryptBf_ok.mp h
  obtain ⟨c, hc⟩ := parseBf_last hP
  have hc64 := bfAtoi_lt _ _ hc
  have hlen : 28 < s.length := cat_ne_zero_lt (fun h0 => by rw [h0, bfAtoi_zero] at hc; cases hc)
  rw [hc, Option.getD_some]
  refine ⟨_, P, hlen, rfl, fun tail => cryptBf_ok.mpr ⟨P, ?_, hst, ?_⟩⟩
  all_goals
    have h28 : cat (s.take 28 ++ [bf64 (c / 16 * 16)] ++ tail) 28 = bf64 (c / 16 * 16) := by
      have := cat_append_mid (s.take 28) (bf64 (c / 16 * 16)) tail
      rwa [length_take, Nat.min_eq_left (by omega), append_cons] at this
    have hatoi : bfAtoi (bf64 (c / 16 * 16)) = some (c / 16 * 16) := by rw [bfAtoi_bf64_mod, Nat.mod_eq_of_lt (by omega)]
  · rw [← hP]
    refine parseBf_congr s _ (fun i hi => ?_) (c / 16 * 16) c (by rw [h28]; exact hatoi) hc (by omega)
    rw [append_assoc]; exact cat_take_append s _ 28 i hi (by omega)
  · have e : (s.take 28 ++ [bf64 (c / 16 * 16)] ++ tail).take 28 = s.take 28 := by
      rw [append_assoc]; exact take_left' (by simp; omega)
    rw [h28, hatoi, Option.getD_some, e, show c / 16 * 16 / 16 * 16 = c / 16 * 16 by omega]

/-- C01's second clause in the form that holds of all sixteen methods (`C01.hashpart_method`) -/
def HashPart (f : Bytes → CRes) (H : Bytes) (n : Nat) : Prop :=
  ∃ S dig, H = S ++ dig ∧ n ≤ S.length ∧ ∀ t, t.length = dig.length → HashText t → f (S ++ t) = .ok H

end Xc
