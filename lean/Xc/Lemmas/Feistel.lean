/-
  DES decryption inverts encryption at the level of the sixteen rounds (C17): the Feistel argument, for any round function,
  key schedule and salt.  The initial/final permutations and the byte packing are not part of this file.
-/
import Xc.Prim.Des
namespace Xc.Des

theorem round_shape (sb l r kl kr : UInt32) : ∃ f : UInt32, round sb l r kl kr = (r, f ^^^ l) ∧ ∀ l', round sb l' r kl kr = (r, f ^^^ l') := by
  unfold round
  exact ⟨_, rfl, fun _ => rfl⟩

theorem round_swap_invol (sb : UInt32) (k : UInt32 × UInt32) (p : UInt32 × UInt32) :
    let q := round sb p.1 p.2 k.1 k.2
    let q' := round sb q.2 q.1 k.1 k.2
    (q'.2, q'.1) = p := by
  obtain ⟨l, r⟩ := p
  obtain ⟨f, h1, h2⟩ := round_shape sb l r k.1 k.2
  dsimp only
  rw [h1]
  dsimp only
  rw [h2 (f ^^^ l)]
  dsimp only
  rw [← UInt32.xor_assoc, UInt32.xor_self, UInt32.zero_xor]

def rounds (sb : UInt32) (ks : List (UInt32 × UInt32)) (p : UInt32 × UInt32) : UInt32 × UInt32 :=
  ks.foldl (fun (p : UInt32 × UInt32) k => round sb p.1 p.2 k.1 k.2) p

def swap (p : UInt32 × UInt32) : UInt32 × UInt32 := (p.2, p.1)

theorem pass_eq (sb : UInt32) (ks : List (UInt32 × UInt32)) (p : UInt32 × UInt32) : pass sb ks p = swap (rounds sb ks p) := rfl

theorem rounds_reverse (sb : UInt32) : ∀ (ks : List (UInt32 × UInt32)) (p : UInt32 × UInt32),
    rounds sb ks.reverse (swap (rounds sb ks p)) = swap p := by
  intro ks
  induction ks with
  | nil => intro p; rfl
  | cons k t ih =>
    intro p
    rw [List.reverse_cons]
    unfold rounds at ih ⊢
    rw [List.foldl_cons, List.foldl_append, List.foldl_cons, List.foldl_nil, ih (round sb p.1 p.2 k.1 k.2)]
    have hinv := round_swap_invol sb k p
    dsimp only at hinv
    unfold swap
    dsimp only
    generalize hx : round sb (round sb p.1 p.2 k.1 k.2).2 (round sb p.1 p.2 k.1 k.2).1 k.1 k.2 = x at hinv
    rw [← hinv]

theorem pass_inverse (c : Ctx) (d : Bool) (p : UInt32 × UInt32) :
    pass c.saltbits (keyList c (!d)) (pass c.saltbits (keyList c d) p) = p := by
  unfold keyList
  generalize (List.range 16).map (fun i => (c.keysl[i]!, c.keysr[i]!)) = ks
  rw [pass_eq, pass_eq]
  cases d
  · simp only [Bool.not_false, if_true, Bool.false_eq_true, if_false]
    rw [rounds_reverse]; rfl
  · have := rounds_reverse c.saltbits ks.reverse p
    rw [List.reverse_reverse] at this
    simp only [Bool.not_true, if_true, Bool.false_eq_true, if_false]
    rw [this]; rfl

theorem iter_succ' {α : Type} (f : α → α) : ∀ n a, iter f (n + 1) a = f (iter f n a) := by
  intro n
  induction n with
  | zero => intro a; rfl
  | succ n ih => intro a; rw [iter, ih (f a)]; rfl

theorem iter_inverse' {α : Type} (f g : α → α) (h : ∀ a, f (g a) = a) (n : Nat) (a : α) : iter f n (iter g n a) = a := by
  induction n generalizing a with
  | zero => rfl
  | succ n ih => rw [iter_succ' g, iter, h, ih]

theorem iter_congr {α : Type} (f g : α → α) (h : ∀ a, f a = g a) : ∀ (n : Nat) (a : α), iter f n a = iter g n a
  | 0, _ => rfl
  | n + 1, a => by simp only [iter]; rw [h a]; exact iter_congr f g h n (g a)
end Xc.Des
